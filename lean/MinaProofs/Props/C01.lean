import MinaProofs.Lemmas.ValueAt
import MinaProofs.Lemmas.Search
import MinaProofs.Lemmas.Writes
/-!
# C01 — Timeline evaluation is CSS-style per-property keyframe interpolation

Model: `SubTl.fromKeyframes` / `valueAt` (`timeline_helpers.rs`), `prepareFrame` (`timeline.rs`), the
derive-generated `update`, at `α = ℚ`. The declarative reading is `Spec.cssFrames`.

For one property, `ks` is the master keyframe list as the builder hands it over (sorted by position,
positions in [0,1] — `KfOK`; the builder's sort is C11), each keyframe carrying `some v` if it defines
the property. No bound on the number of keyframes; repeated positions, arbitrary presence masks and
per-keyframe easings are all inside the statements. `builtSub … ov` is the sub-timeline with an optional
substituted start value `ov`.
-/
namespace C01
open Spec

/-- the frames `from_keyframes` builds are exactly the CSS reading: the defining keyframes with carried
easings, a synthetic `(0 %, default, default easing)` frame iff the first one is not at 0 %, a
`(100 %, last value)` frame iff the last one is before 100 %; empty iff none defines the property -/
theorem frames_are_css (ks : List (PKeyframe ℚ)) (hok : KfOK ks) (d : Val ℚ) (e0 : Easing) :
    (SubTl.fromKeyframes ks d e0).frames = cssFrames ks d e0 := frames_eq_css ks hok d e0

/-- keyframes that omit the property take no part in that property's interpolation -/
theorem omitting_keyframes_irrelevant (ks : List (PKeyframe ℚ)) (e0 : Easing) :
    cssReals ks e0 = cssReals (ks.filter (·.value.isSome)) e0 := by
  fun_induction cssReals ks e0 with
  | case1 => rfl
  | case2 k ks e v hv ih => simp [List.filter, hv, cssReals, ih]
  | case3 k ks e hv ih => simp [List.filter, hv, ih]

/-- the keyframe search used by `prepare_frame` meets the contract the lookup needs -/
theorem search_contract (ks : List (PKeyframe ℚ)) (hok : KfOK ks) (hne : ks ≠ []) (s : ℚ) :
    HintOK ks s (searchIdx (ks.map (·.time)) s) := by
  obtain ⟨hlt, hc⟩ := searchIdx_spec (ks.map (·.time)) s (by simpa using hne)
    (by rw [List.pairwise_map]; exact hok.sorted)
  rw [List.length_map] at hlt
  simp only [← List.map_take, ← List.map_drop, List.forall_mem_map] at hc
  exact ⟨ks.take (_ + 1), ks.drop (_ + 1), (List.take_append_drop _ _).symm, List.length_take_of_le hlt, hc⟩

/-- **Interpolation.** At a position strictly between two consecutive frames `F[m]`, `F[m+1]` of the CSS
reading, the value is the linear interpolation of their values at the eased fraction of the segment,
with the easing in force at the segment's *starting* frame — for every master index the search may
return, with or without a substituted start value (which replaces only the value of frame 0, and only
when the override is enabled). -/
theorem interpolation (ks : List (PKeyframe ℚ)) (hok : KfOK ks) (d : Val ℚ) (e0 : Easing)
    (hdata : cssReals ks e0 ≠ []) (ov : Option (Val ℚ)) (ovr : Bool) (s : ℚ) (hs0 : 0 ≤ s) (hs1 : s ≤ 1)
    (idx : Nat) (hidx : HintOK ks s idx)
    (m : Nat) (f g : Frame ℚ) (hf : (cssFrames ks d e0)[m]? = some f) (hg : (cssFrames ks d e0)[m + 1]? = some g)
    (hlt : f.time < s) (hgt : s < g.time) :
    (builtSub ks d e0 ov).valueAt s idx ovr =
      some ((gFrame (builtSub ks d e0 ov) m ovr f).value.lerp g.value
        (f.easing.calc ((s - f.time) / (g.time - f.time)))) := by
  rw [← frames_eq_css ks hok d e0, ← (builtSub_frames ks d e0 ov).1] at hf hg
  obtain ⟨gt, ge⟩ := gFrame_time_easing (builtSub_ovrOK ks d e0 ov) ovr hf
  -- frames are sorted, so the bracket the lookup found can only be `m`, `m + 1`
  cases valueAt_bracket ks hok d e0 hdata ov s hs0 hs1 idx hidx ovr with
  | seg m' f' g' hf' hg' h1 h2 hr =>
    have hle : m' ≤ m := Nat.lt_succ_iff.1 (builtSub_lt_of_time_lt hok hf' hg (h1.trans_lt hgt))
    have hge : m ≤ m' := Nat.lt_succ_iff.1 (builtSub_lt_of_time_lt hok hf hg' (hlt.trans_le h2))
    obtain rfl := le_antisymm hle hge
    rw [hf] at hf'; rw [hg] at hg'
    cases hf'; cases hg'
    rw [hr, interpolate_of_ne (by rw [gt]; exact (hlt.trans hgt).ne), gt, ge]
  | last m' f' hf' hl h1 hr =>
    -- frame `m + 1` exists, so the last frame is at or after it in the list, yet before it in time
    have h3 := (List.getElem?_eq_some_iff.1 hg).1
    have := builtSub_lt_of_time_lt hok hf' hg (h1.trans_lt hgt)
    omega

/-- if no keyframe defines the property at 0 %, the first segment starts from the property type's
default value at 0 % with the timeline's default easing -/
theorem default_start (ks : List (PKeyframe ℚ)) (d : Val ℚ) (e0 : Easing) (f : Frame ℚ) (rs : List (Frame ℚ))
    (hr : cssReals ks e0 = f :: rs) (hpos : 0 < f.time) :
    (cssFrames ks d e0)[0]? = some ⟨0, d, e0⟩ ∧ (cssFrames ks d e0)[1]? = some f := by
  have hp : lit 0 < f.time := by simpa using hpos
  simp only [cssFrames, hr, hp, if_true]
  cases hl : ([(⟨lit 0, d, e0⟩ : Frame ℚ)] ++ f :: rs).getLast? with
  | none => simp at hl
  | some l => simp only; split <;> simp

/-- if none defines it at 100 %, the last defined value is held until the end: the last frame of the
reading is at 100 % and carries the last defining keyframe's value -/
theorem hold_end (ks : List (PKeyframe ℚ)) (d : Val ℚ) (e0 : Easing) (l : Frame ℚ)
    (hne : cssReals ks e0 ≠ []) (hl : (cssReals ks e0).getLast? = some l) (hlt : l.time < 1) :
    (cssFrames ks d e0).getLast? = some ⟨1, l.value, l.easing⟩ := by
  obtain ⟨f, rs, hr⟩ := List.exists_cons_of_ne_nil hne
  have hbody : ((if lit 0 < f.time then [(⟨lit 0, d, e0⟩ : Frame ℚ)] else []) ++ f :: rs).getLast? = some l := by
    rw [List.getLast?_append_of_ne_nil _ (by simp), ← hr]; exact hl
  have hlt' : l.time < lit 1 := by simpa using hlt
  simp only [cssFrames, hr, hbody, hlt', if_true]
  rw [List.getLast?_append_of_ne_nil _ (by simp)]; rfl

/-- **Timeline level.** `update` on the built timeline writes, into an animated field's slot, exactly
what that field's sub-timeline yields at the position and index `prepare_frame` computes. -/
theorem update_writes_valueAt (tl : Timeline ℚ) (tgt res : List (Val ℚ)) (time : ℚ)
    (hnd : (tl.subs.map Prod.fst).Nodup) (h : tl.update tgt time = .ok res)
    (t : ℚ) (idx : Nat) (ovr : Bool) (hp : prepareFrame tl.ts tl.boundary time = some (t, idx, ovr))
    (i : Nat) (sub : SubTl ℚ) (hmem : (i, sub) ∈ tl.subs) (hi : i < tgt.length) :
    res[i]? = match sub.valueAt t idx ovr with
      | some (.ok v) => some v
      | _ => tgt[i]? := by
  obtain ⟨W, hW, rfl⟩ := update_ok_iff.1 h
  simp only [Timeline.writes, hp] at hW
  -- with distinct indices, `sub` is the only sub-timeline that writes slot `i`
  have key : ∀ v, (i, v) ∈ W ↔ sub.valueAt t idx ovr = some (.ok v) := fun v =>
    (mem_writesOf hW).trans ⟨fun ⟨s, hs, hv⟩ => by
      cases (List.inj_on_of_nodup_map hnd hs hmem rfl); exact hv, fun hv => ⟨sub, hmem, hv⟩⟩
  rw [applyWrites_getElem?, List.getElem?_eq_getElem hi]
  cases hl : lastWrite W i with
  | some v => rw [(key v).1 (lastWrite_mem hl)]; rfl
  | none =>
    -- slot `i` is not written, so `sub` yields no value there (`key`) and the `match` falls through
    split
    next v hv => exact absurd (List.mem_map.2 ⟨_, (key v).2 hv, rfl⟩) ((lastWrite_eq_none_iff W i).1 hl)
    next => rfl

/-! Non-vacuity: a sparse 4-keyframe list (positions 0, ¼, ¼, 1; the property defined at ¼ and 1 only,
with an easing change) meets the hypotheses; its reading has a synthetic 0 % frame and three segments. -/
example :
    let ks : List (PKeyframe ℚ) := [⟨0, none, none⟩, ⟨1/4, some (.num 10), some (.builtin .outQuad)⟩,
      ⟨1/4, none, none⟩, ⟨1, some (.num 20), none⟩]
    KfOK ks ∧ (cssFrames ks (.num 0) Easing.default).length = 3 := by
  intro ks
  refine ⟨⟨?_, ?_, ?_⟩, ?_⟩ <;> simp [ks, cssFrames, cssReals] <;> norm_num

end C01
