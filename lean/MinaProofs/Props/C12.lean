import MinaProofs.Lemmas.Writes
import MinaModel.Merged
import MinaProofs.Lemmas.ListMax
/-!
# C12 — A merged timeline is an ordered overlay with aggregate timing

Model: `MinaModel/Merged.lean`. Update/start_with theorems are generic in the number system; the
aggregate-timing theorems are at ℚ (they speak of minima and maxima). A total duration is
`Option ℚ` with `none` = infinite.
-/
namespace C12

section generic
variable {α : Type} [Num α]

/-- evaluating a merged timeline = applying its components in order to the same target at the same time -/
theorem merged_update_fold (tls : List (Timeline α)) (tgt : List (Val α)) (time : α) :
    (Merged.mk tls).update tgt time =
      tls.foldl (fun acc tl => match acc with | .ok t => tl.update t time | .error p => .error p) (.ok tgt) := by
  unfold Merged.update
  fun_induction Merged.update.go time tls tgt with
  | case1 => rfl
  | case2 tl rest tgt t' h ih => simp only [List.foldl_cons, h]; exact ih
  | case3 tl rest tgt p h => simp only [List.foldl_cons, h]; exact (List.foldl_fixed' (fun _ => rfl) rest).symm

theorem merged_update_cons (tl : Timeline α) (rest : List (Timeline α)) (tgt : List (Val α)) (time : α) :
    (Merged.mk (tl :: rest)).update tgt time =
      match tl.update tgt time with
      | .ok t' => (Merged.mk rest).update t' time
      | .error p => .error p := by
  simp only [Merged.update, Merged.update.go]
  cases tl.update tgt time <;> rfl

theorem update_go_append (xs ys : List (Timeline α)) (tgt : List (Val α)) (time : α) :
    Merged.update.go time (xs ++ ys) tgt =
      match Merged.update.go time xs tgt with
      | .ok t' => Merged.update.go time ys t'
      | .error p => .error p := by
  fun_induction Merged.update.go time xs tgt with
  | case1 => rfl
  | case2 x rest tgt t' h ih => rw [List.cons_append, Merged.update.go, h]; exact ih
  | case3 x rest tgt p h => rw [List.cons_append, Merged.update.go, h]

/-- wrapping a single timeline changes nothing about it -/
theorem singleton_transparent (tl : Timeline α) (tgt v : List (Val α)) (time : α) :
    (Merged.mk [tl]).update tgt time = tl.update tgt time ∧
    (Merged.mk [tl]).delay = tl.delay ∧ (Merged.mk [tl]).duration = tl.duration ∧
    (Merged.mk [tl]).repeat_ = tl.repeat_ ∧ (Merged.mk [tl]).cycleDuration = tl.cycleDuration ∧
    ((Merged.mk [tl]).startWith v).timelines = [tl.startWith v] := by
  refine ⟨?_, rfl, rfl, rfl, rfl, rfl⟩
  simp only [Merged.update, Merged.update.go]
  cases tl.update tgt time <;> rfl

/-- the writes of a whole merged timeline: the components' writes, concatenated in order -/
def mergedWrites (tls : List (Timeline α)) (time : α) : Except Panic (List (Nat × Val α)) :=
  match tls with
  | [] => .ok []
  | tl :: rest =>
    match tl.writes time with
    | .ok W => (mergedWrites rest time).map (W ++ ·)
    | .error p => .error p

theorem mergedWrites_cons_ok {tl : Timeline α} {rest : List (Timeline α)} {time : α} {W : List (Nat × Val α)} :
    mergedWrites (tl :: rest) time = .ok W ↔
      ∃ W1 W2, tl.writes time = .ok W1 ∧ mergedWrites rest time = .ok W2 ∧ W1 ++ W2 = W := by
  rw [mergedWrites]
  cases tl.writes time with
  | error e => exact ⟨nofun, nofun⟩
  | ok W1 =>
    exact Except.map_eq_ok.trans
      ⟨fun ⟨W2, h2, h⟩ => ⟨W1, W2, rfl, h2, h⟩, fun ⟨_, W2, h1, h2, h⟩ => Except.ok.inj h1 ▸ ⟨W2, h2, h⟩⟩

theorem merged_update_eq_writes (tls : List (Timeline α)) (tgt : List (Val α)) (time : α) :
    (Merged.mk tls).update tgt time = (mergedWrites tls time).map (fun W => applyWrites W tgt) := by
  fun_induction mergedWrites tls time generalizing tgt with
  | case1 => rfl
  | case2 tl rest W hW ih =>
    rw [merged_update_cons, update_eq_writes, hW]
    refine (ih _).trans ?_
    cases mergedWrites rest time with
    | error p => rfl
    | ok W' => exact congrArg Except.ok (applyWrites_append W W' tgt).symm
  | case3 tl rest p hW => rw [merged_update_cons, update_eq_writes, hW]; rfl

theorem merged_update_ok_iff {m : Merged α} {tgt r : List (Val α)} {time : α} :
    m.update tgt time = .ok r ↔ ∃ W, mergedWrites m.timelines time = .ok W ∧ applyWrites W tgt = r :=
  merged_update_eq_writes m.timelines tgt time ▸ Except.map_eq_ok

/-- later components win on shared properties: if the last component produces a value for slot `k`,
that is the value in the result, whatever the earlier components wrote -/
theorem later_wins (init : List (Timeline α)) (last : Timeline α) (tgt r : List (Val α)) (time : α)
    (h : (Merged.mk (init ++ [last])).update tgt time = .ok r)
    (W : List (Nat × Val α)) (hW : last.writes time = .ok W) (k : Nat) (v : Val α) (hk : lastWrite W k = some v)
    (hlen : k < tgt.length) : r[k]? = some v := by
  rw [Merged.update, update_go_append] at h
  split at h
  next t' hi =>
    -- `last` is applied to what `init` made of the target, which is as long as the target
    obtain ⟨Wi, -, rfl⟩ := (merged_update_ok_iff (m := ⟨init⟩)).1 hi
    obtain ⟨W', hW', rfl⟩ := update_ok_iff.1 ((singleton_transparent last _ [] time).1.symm.trans h)
    cases hW.symm.trans hW'
    rw [applyWrites_getElem?, hk, List.getElem?_eq_getElem (by rwa [applyWrites_length])]; rfl
  next => nomatch h

/-- `start_with` reaches every component -/
theorem startWith_reaches_all (m : Merged α) (v : List (Val α)) :
    (m.startWith v).timelines = m.timelines.map (·.startWith v) := rfl

/-- an empty merge touches nothing and reports zero delay, zero duration, no repeat, no cycle -/
theorem empty_merge (tgt : List (Val α)) (time : α) :
    (Merged.mk ([] : List (Timeline α))).update tgt time = .ok tgt ∧
    (Merged.mk ([] : List (Timeline α))).duration = some (lit 0) ∧
    (Merged.mk ([] : List (Timeline α))).repeat_ = .none ∧
    (Merged.mk ([] : List (Timeline α))).cycleDuration = none := ⟨rfl, rfl, rfl, rfl⟩

end generic

/-! ### aggregate timing (ℚ)

Delay, total duration and repeat are each a greatest value (`IsGreatestOn`) of the components' for an order of their
own: `≥` on ℚ, `durLe`, and `rankLe` of `repeatRank`. -/

theorem foldl_min_le (xs : List ℚ) (x : ℚ) :
    (∀ y ∈ x :: xs, xs.foldl (fun m y => if y < m then y else m) x ≤ y) ∧
    xs.foldl (fun m y => if y < m then y else m) x ∈ x :: xs :=
  -- `.symm`: here the `then` branch is the new element, `foldl_pick_max` lists the accumulator first
  foldl_pick_max (fun _ _ => (ite_pick (le := (· ≥ ·)) le_of_lt not_lt.1).symm) le_refl (fun h1 h2 => le_trans h2 h1) xs x

/-- delay = the smallest component delay -/
theorem merged_delay_min (tl : Timeline ℚ) (rest : List (Timeline ℚ)) :
    (∀ t ∈ tl :: rest, (Merged.mk (tl :: rest)).delay ≤ t.delay) ∧
    ∃ t ∈ tl :: rest, (Merged.mk (tl :: rest)).delay = t.delay :=
  (.of_map (foldl_min_le (rest.map _) tl.delay) : IsGreatestOn (· ≥ ·) (·.delay) (tl :: rest) _)

/-- order on total durations with `none` = ∞ -/
def durLe (a b : Option ℚ) : Prop :=
  match a, b with
  | _, none => True
  | none, some _ => False
  | some x, some y => x ≤ y

theorem durLe_refl (a : Option ℚ) : durLe a a := by cases a <;> simp [durLe]

theorem durLe_trans {a b c : Option ℚ} (h1 : durLe a b) (h2 : durLe b c) : durLe a c := by
  cases a <;> cases b <;> cases c <;> simp_all [durLe]
  exact le_trans h1 h2

theorem durLt_iff (a b : Option ℚ) : durLt a b = true ↔ ¬ durLe b a := by
  cases a <;> cases b <;> simp [durLt, durLe]

theorem durLe_of_durLt {a b : Option ℚ} (h : durLt a b = true) : durLe a b := by
  cases a <;> cases b <;> simp_all [durLt, durLe, le_of_lt]

theorem durLe_of_not_durLt {a b : Option ℚ} (h : ¬ durLt a b = true) : durLe b a :=
  not_not.1 (mt (durLt_iff a b).2 h)

theorem eq_none_of_durLe {b : Option ℚ} (h : durLe none b) : b = none := by
  cases b with
  | none => rfl
  | some _ => exact h.elim

theorem foldl_dur_max (xs : List (Option ℚ)) (x : Option ℚ) :
    (∀ y ∈ x :: xs, durLe y (xs.foldl (fun mx y => if durLt y mx then mx else y) x)) ∧
    xs.foldl (fun mx y => if durLt y mx then mx else y) x ∈ x :: xs :=
  foldl_pick_max (fun _ _ => ite_pick durLe_of_durLt durLe_of_not_durLt) durLe_refl durLe_trans xs x

/-- total duration = the largest component duration (infinite if any is) -/
theorem merged_duration_max (tl : Timeline ℚ) (rest : List (Timeline ℚ)) :
    (∀ t ∈ tl :: rest, durLe t.duration (Merged.mk (tl :: rest)).duration) ∧
    ∃ t ∈ tl :: rest, (Merged.mk (tl :: rest)).duration = t.duration :=
  (.of_map (foldl_dur_max (rest.map _) tl.duration) : IsGreatestOn durLe (·.duration) (tl :: rest) _)

theorem merged_duration_infinite_iff (tl : Timeline ℚ) (rest : List (Timeline ℚ)) :
    (Merged.mk (tl :: rest)).duration = none ↔ ∃ t ∈ tl :: rest, t.duration = none := by
  obtain ⟨h1, t0, ht0, he⟩ := merged_duration_max tl rest
  exact ⟨fun h => ⟨t0, ht0, he ▸ h⟩, fun ⟨t, ht, hn⟩ => eq_none_of_durLe (hn ▸ h1 t ht)⟩

/-- the rank the repaired `Ord for Repeat` sorts by: Infinite above every finite count -/
def repeatRank (r : Repeat) : Nat × Nat := (if r = .infinite then 1 else 0, r.ordinal)

theorem repeat_lt_iff (a b : Repeat) : Repeat.lt a b = true ↔ (repeatRank a).1 < (repeatRank b).1 ∨
    ((repeatRank a).1 = (repeatRank b).1 ∧ (repeatRank a).2 < (repeatRank b).2) := by
  unfold Repeat.lt repeatRank
  simp only [beq_iff_eq, Bool.or_eq_true, decide_eq_true_eq, Bool.and_eq_true]

def rankLe (a b : Nat × Nat) : Prop := a.1 < b.1 ∨ (a.1 = b.1 ∧ a.2 ≤ b.2)

theorem rankLe_trans {a b c : Nat × Nat} (h1 : rankLe a b) (h2 : rankLe b c) : rankLe a c := by
  unfold rankLe at *; omega

theorem rankLe_of_lt {a b : Repeat} (h : Repeat.lt a b = true) : rankLe (repeatRank a) (repeatRank b) := by
  rw [repeat_lt_iff] at h; unfold rankLe; omega

theorem rankLe_of_not_lt {a b : Repeat} (h : ¬ Repeat.lt a b = true) : rankLe (repeatRank b) (repeatRank a) := by
  rw [repeat_lt_iff] at h; unfold rankLe; omega

theorem foldl_repeat_max (xs : List Repeat) (x : Repeat) :
    (∀ y ∈ x :: xs, rankLe (repeatRank y) (repeatRank (xs.foldl (fun mx y => if Repeat.lt y mx then mx else y) x))) ∧
    xs.foldl (fun mx y => if Repeat.lt y mx then mx else y) x ∈ x :: xs :=
  foldl_pick_max
    (fun _ _ => ite_pick (le := fun a b => rankLe (repeatRank a) (repeatRank b)) rankLe_of_lt rankLe_of_not_lt)
    (fun _ => .inr ⟨rfl, le_rfl⟩) rankLe_trans xs x

/-- repeat = the largest component repeat (Infinite above every finite count — no restriction on the
count, thanks to fix 442e70b) -/
theorem merged_repeat_max (tl : Timeline ℚ) (rest : List (Timeline ℚ)) :
    (∀ t ∈ tl :: rest, rankLe (repeatRank t.repeat_) (repeatRank (Merged.mk (tl :: rest)).repeat_)) ∧
    ∃ t ∈ tl :: rest, (Merged.mk (tl :: rest)).repeat_ = t.repeat_ :=
  (.of_map (foldl_repeat_max (rest.map _) tl.repeat_) :
    IsGreatestOn (fun a b => rankLe (repeatRank a) (repeatRank b)) (·.repeat_) (tl :: rest) _)

/-! ### the common cycle duration

`Merged.cycleDuration` reduces the reported values with a step for which `none` is absorbing and which otherwise
keeps a value only as long as the next one equals it. -/

theorem cycleFold_absorb {α : Type} [Num α] {x : Option α} {xs : List (Option α)} (h : none ∈ x :: xs) :
    xs.foldl (fun d1 d2 => match d1, d2 with
      | some a, some b => if a == b then some a else none
      | none, none => none
      | _, _ => none) x = none :=
  foldl_absorb (fun b => by cases b <;> rfl) (fun a => by cases a <;> rfl) h

theorem cycleFold_eq_some {α : Type} [Num α] [LawfulBEq α] (x : Option α) (xs : List (Option α)) (c : α) :
    xs.foldl (fun d1 d2 => match d1, d2 with
      | some a, some b => if a == b then some a else none
      | none, none => none
      | _, _ => none) x = some c ↔ ∀ y ∈ x :: xs, y = some c := by
  refine foldl_eq_iff_forall (fun a b => ?_) xs x
  rcases a with _ | a <;> rcases b with _ | b <;> simp
  constructor <;> rintro ⟨rfl, rfl⟩ <;> exact ⟨rfl, rfl⟩

/-- a cycle duration is reported only when all components agree, and then it is theirs -/
theorem merged_cycle_common (tl : Timeline ℚ) (rest : List (Timeline ℚ)) (c : ℚ) :
    (Merged.mk (tl :: rest)).cycleDuration = some c ↔ ∀ t ∈ tl :: rest, t.cycleDuration = some c := by
  rw [← List.forall_mem_map (f := Timeline.cycleDuration) (P := (· = some c))]
  exact cycleFold_eq_some tl.cycleDuration (rest.map Timeline.cycleDuration) c

end C12
