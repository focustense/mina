import MinaProofs.Props.C04
import MinaProofs.Props.C02
/-!
# C07 — Completion is reported exactly when the animation is over, and values then rest

Model at ℚ: `Animator.isEnded`, `Merged.duration` (C12: the maximum, infinite iff any component is).
-/
namespace C07
open Animator

/-- `is_ended` is true exactly when the current state has no timeline or the time spent in the state is
at least that timeline's total duration -/
theorem is_ended_iff (a : Animator ℚ) :
    a.isEnded = true ↔ a.timeline? a.state = none ∨
      ∃ tl d, a.timeline? a.state = some tl ∧ tl.duration = some d ∧ d ≤ (a.stateNs : ℚ) / 1000000000 := by
  fun_cases Animator.isEnded a with
  | case1 htl => simp [htl]
  | case2 tl htl hd => simp [htl, hd]
  | case3 tl htl d hd => simp [htl, hd]

/-- never true while any component repeats infinitely -/
theorem never_ended_if_any_infinite (a : Animator ℚ) (tl0 : Timeline ℚ) (rest : List (Timeline ℚ))
    (htl : a.timeline? a.state = some ⟨tl0 :: rest⟩) (t : Timeline ℚ) (ht : t ∈ tl0 :: rest)
    (hinf : t.ts.repeat_ = .infinite) : a.isEnded = false := by
  have hdur : (Merged.mk (tl0 :: rest)).duration = none := by
    rw [C12.merged_duration_infinite_iff]
    refine ⟨t, ht, ?_⟩
    simp [Timeline.duration, TimeScale.totalDuration, hinf]
  unfold Animator.isEnded
  rw [htl]; simp only [hdur]

/-- the total duration compared against is the maximum over the merged components -/
theorem duration_is_max (tl0 : Timeline ℚ) (rest : List (Timeline ℚ)) :
    (∀ t ∈ tl0 :: rest, C12.durLe t.duration (Merged.mk (tl0 :: rest)).duration) ∧
    ∃ t ∈ tl0 :: rest, (Merged.mk (tl0 :: rest)).duration = t.duration := C12.merged_duration_max tl0 rest

theorem secs_le_add (m n : Nat) : (m : ℚ) / 1000000000 ≤ ((m + n : Nat) : ℚ) / 1000000000 := by
  push_cast
  exact div_le_div_of_nonneg_right (le_add_of_nonneg_right (Nat.cast_nonneg n)) (by norm_num)

/-- once true it stays true under any further advances (until the state changes) -/
theorem ended_stays (a a' : Animator ℚ) (ns : Nat) (he : a.isEnded = true) (h : a.advanceNs ns = .ok a') :
    a'.isEnded = true := by
  obtain ⟨v, rfl⟩ := advanceNs_shape h
  rw [is_ended_iff] at he ⊢
  exact he.imp id fun ⟨tl, d, h3, h5, h6⟩ => ⟨tl, d, h3, h5, h6.trans (secs_le_add a.stateNs ns)⟩

/-- merged evaluation is constant once every component is strictly past its own end -/
theorem merged_rest (tls : List (Timeline ℚ)) (t1 t2 : ℚ) (tgt : List (Val ℚ))
    (hpast : ∀ tl ∈ tls, ∃ T, tl.ts.totalDuration = some T ∧ T < t1 ∧ T < t2 ∧ tl.ts.delay ≤ T) :
    (Merged.mk tls).update tgt t1 = (Merged.mk tls).update tgt t2 := by
  rw [C12.merged_update_fold, C12.merged_update_fold]
  refine List.foldl_ext _ _ _ fun acc tl htl => ?_
  cases acc with
  | error p => rfl
  | ok v =>
    obtain ⟨T, hT, h1, h2, hd⟩ := hpast tl htl
    by_cases hb : tl.boundary = []
    · simp [Timeline.update, prepareFrame, hb]
    · exact (C02.after_end_constant tl hb T hT t1 t2 h1 h2 hd v).1

/-- **values then rest**: once every component of the current timeline is past its end, a further
advance leaves `current_values` exactly where they are (terminal values) -/
theorem ended_values_rest (P : List (Val ℚ) → Prop) (a a' : Animator ℚ) (ns : Nat) (hg : C04.Good P a)
    (tl : Merged ℚ) (htl : a.timeline? a.state = some tl)
    (hpast : ∀ t ∈ tl.timelines, ∃ T, t.ts.totalDuration = some T ∧ T < (a.stateNs : ℚ) / 1000000000 ∧ t.ts.delay ≤ T)
    (h : a.advanceNs ns = .ok a') : a'.values = a.values := by
  apply Except.ok.inj
  calc .ok a'.values = tl.update a.values (Num.secsOfNanos (a.stateNs + ns)) := (advanceNs_values h htl).symm
    _ = tl.update a.values (Num.secsOfNanos a.stateNs) := merged_rest tl.timelines _ _ _ fun t ht =>
      let ⟨T, hT, hlt, hd⟩ := hpast t ht
      ⟨T, hT, hlt.trans_le (secs_le_add a.stateNs ns), hlt, hd⟩
    _ = .ok a.values := hg.inv.current tl htl

end C07
