import MinaProofs.Props.C12
import MinaProofs.Props.C08
/-!
# C12 — with disjoint properties the order of the components is irrelevant

If the members of a merged timeline animate pairwise disjoint sets of properties, every permutation of the
members evaluates to the same result on every target at every time. Generic in the number system.
(Proof: the write-list normal form; `lastWrite` of a concatenation is insensitive to swapping two blocks
whose index sets are disjoint; induction over `List.Perm`.)
-/
namespace C12

variable {α : Type} [Num α]

/-- the slots a timeline can write: one per animated field -/
def idxs (tl : Timeline α) : List Nat := tl.subs.map Prod.fst

theorem idxs_build (fields : List (AnimField α)) (cfg : Config α) :
    idxs (Timeline.build fields cfg) = fields.map (·.idx) :=
  C08.build_animated_indices fields cfg

/-- the two timelines animate no common property -/
def DisjointIdx (a b : Timeline α) : Prop := ∀ k, ¬ (k ∈ idxs a ∧ k ∈ idxs b)

theorem disjointIdx_symm {a b : Timeline α} (h : DisjointIdx a b) : DisjointIdx b a :=
  fun k hk => h k ⟨hk.2, hk.1⟩

theorem writes_indices (tl : Timeline α) (t : α) (W : List (Nat × Val α)) (h : tl.writes t = .ok W) :
    ∀ i ∈ W.map Prod.fst, i ∈ idxs tl := by
  unfold Timeline.writes at h
  split at h
  · cases h; nofun
  · exact writesOf_indices h

theorem lastWrite_some_mem (W : List (Nat × Val α)) (k : Nat) (v : Val α) (h : lastWrite W k = some v) :
    k ∈ W.map Prod.fst :=
  List.mem_map.2 ⟨_, lastWrite_mem h, rfl⟩

/-- same last writes ⇒ same result on every target -/
theorem applyWrites_ext (W W' : List (Nat × Val α)) (tgt : List (Val α)) (h : ∀ k, lastWrite W' k = lastWrite W k) :
    applyWrites W' tgt = applyWrites W tgt := by
  apply List.ext_getElem?
  intro k
  rw [applyWrites_getElem?, applyWrites_getElem?, h k]

/-- the permuted merge succeeds whenever the original does, with the same last write per slot -/
theorem perm_lastWrite (tls tls' : List (Timeline α)) (hp : tls.Perm tls') (hd : tls.Pairwise DisjointIdx)
    (t : α) (W : List (Nat × Val α)) (hW : mergedWrites tls t = .ok W) :
    ∃ W', mergedWrites tls' t = .ok W' ∧ ∀ k, lastWrite W' k = lastWrite W k := by
  induction hp generalizing W with
  | nil => exact ⟨W, hW, fun _ => rfl⟩
  | cons x _ ih =>
    obtain ⟨Wx, Wl, hx, hl, rfl⟩ := mergedWrites_cons_ok.1 hW
    obtain ⟨Wl', hl', hsame⟩ := ih (List.Pairwise.of_cons hd) Wl hl
    exact ⟨Wx ++ Wl', mergedWrites_cons_ok.2 ⟨Wx, Wl', hx, hl', rfl⟩,
      fun k => by rw [lastWrite_append, lastWrite_append, hsame k]⟩
  | swap x y l =>
    obtain ⟨Wy, _, hy, hxl, rfl⟩ := mergedWrites_cons_ok.1 hW
    obtain ⟨Wx, Wl, hx, hl, rfl⟩ := mergedWrites_cons_ok.1 hxl
    refine ⟨Wx ++ (Wy ++ Wl),
      mergedWrites_cons_ok.2 ⟨Wx, _, hx, mergedWrites_cons_ok.2 ⟨Wy, Wl, hy, hl, rfl⟩, rfl⟩, fun k => ?_⟩
    -- the blocks of `x` and `y` write disjoint slots, so they commute
    have hdis : DisjointIdx y x := (List.pairwise_cons.1 hd).1 x List.mem_cons_self
    rw [← List.append_assoc, ← List.append_assoc, lastWrite_append, lastWrite_append (Wy ++ Wx),
      lastWrite_append_comm Wx Wy k fun hkx hky =>
        hdis k ⟨writes_indices y t Wy hy k hky, writes_indices x t Wx hx k hkx⟩]
  | trans h1 _ ih1 ih2 =>
    obtain ⟨W1, hW1, hs1⟩ := ih1 hd W hW
    obtain ⟨W2, hW2, hs2⟩ := ih2 ((h1.pairwise_iff disjointIdx_symm).1 hd) W1 hW1
    exact ⟨W2, hW2, fun k => (hs2 k).trans (hs1 k)⟩

/-- **with disjoint properties the order is irrelevant**: any permutation of the members gives the same
result on the same target at the same time -/
theorem disjoint_any_order (tls tls' : List (Timeline α)) (hp : tls.Perm tls') (hd : tls.Pairwise DisjointIdx)
    (tgt r : List (Val α)) (t : α) (h : (Merged.mk tls).update tgt t = .ok r) :
    (Merged.mk tls').update tgt t = .ok r := by
  obtain ⟨W, hW, rfl⟩ := merged_update_ok_iff.1 h
  obtain ⟨W', hW', hsame⟩ := perm_lastWrite tls tls' hp hd t W hW
  exact merged_update_ok_iff.2 ⟨W', hW', applyWrites_ext W W' tgt hsame⟩

/-- … and the permuted merge fails exactly when the original fails (some member's evaluation panics) -/
theorem disjoint_any_order_ok_iff (tls tls' : List (Timeline α)) (hp : tls.Perm tls') (hd : tls.Pairwise DisjointIdx)
    (tgt : List (Val α)) (t : α) :
    (∃ r, (Merged.mk tls).update tgt t = .ok r) ↔ (∃ r, (Merged.mk tls').update tgt t = .ok r) :=
  ⟨.imp fun r => disjoint_any_order tls tls' hp hd tgt r t,
    .imp fun r => disjoint_any_order tls' tls hp.symm ((hp.pairwise_iff disjointIdx_symm).1 hd) tgt r t⟩

/-- non-vacuity of the hypothesis: two timelines over different slots are disjoint -/
example : [Timeline.build [⟨0, .num 0⟩] (Config.default : Config ℚ), Timeline.build [⟨1, .num 0⟩] Config.default].Pairwise DisjointIdx := by
  simp [DisjointIdx, idxs_build]

end C12
