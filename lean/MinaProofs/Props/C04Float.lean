import MinaProofs.Lemmas.FloatTimeline
import MinaProofs.Lemmas.KindTimeline
/-!
# C04, closed form for builder-built timelines

For every state animator whose states carry builder-built timelines — built-in easings, keyframes at
pairwise distinct positions in [0,1], delay ≥ 0, cycle duration > 0, any repeat/reverse setting — after
**any** history of `advance` / `set_state`, calling `set_state` leaves `current_values` exactly unchanged.
No blend-law hypothesis: it is discharged by `build_tlOK` for float-valued properties (the values are `n`
floats) and by `build_tlOK_merged` for every value kind the derive supports (floats and primitive integers)
and merges of several timelines over the same struct; both rest on the lookup theorem, C10, C13 and C14.
Arithmetic: exact (ℚ).
-/
namespace C04

/-- the timelines of the animator: each state has none, or one built from a float configuration -/
def FloatAnimatorCfg (n : Nat) (timelines : List (Option (Merged ℚ))) : Prop :=
  ∀ m, some m ∈ timelines → ∃ fields cfg, FloatCfg n fields cfg ∧ m = Merged.mk [Timeline.build fields cfg]

theorem FloatAnimatorCfg.tlOK {n : Nat} {timelines : List (Option (Merged ℚ))} (h : FloatAnimatorCfg n timelines)
    (m : Merged ℚ) (hm : some m ∈ timelines) : TlOK (FloatVals n) m := by
  obtain ⟨fields, cfg, hc, rfl⟩ := h m hm
  exact build_tlOK hc

theorem no_jump_float_animator (n : Nat) (timelines : List (Option (Merged ℚ))) (s0 : Nat) (v0 : List (Val ℚ))
    (hcfg : FloatAnimatorCfg n timelines) (hv0 : FloatVals n v0)
    (ops : List (AnimOp ℚ)) (a a' : Animator ℚ) (s : Nat)
    (hrun : (Animator.new timelines s0 v0).run ops = .ok a) (hset : a.setState s = .ok a') :
    a'.values = a.values :=
  no_jump_after_any_history (FloatVals n) timelines s0 v0 hv0 hcfg.tlOK ops a a' s hrun hset

/-- … and the values always are the current timeline evaluated at the time in state (C05's first sentence),
again without hypotheses on the timelines beyond the configuration -/
theorem values_follow_timeline_float (n : Nat) (timelines : List (Option (Merged ℚ))) (s0 : Nat) (v0 : List (Val ℚ))
    (hcfg : FloatAnimatorCfg n timelines) (hv0 : FloatVals n v0)
    (ops : List (AnimOp ℚ)) (a : Animator ℚ) (hrun : (Animator.new timelines s0 v0).run ops = .ok a)
    (tl : Merged ℚ) (htl : a.timeline? a.state = some tl) :
    tl.update a.values ((a.stateNs : ℚ) / 1000000000) = .ok a.values := by
  simpa using (reachable_good (FloatVals n) hv0 hcfg.tlOK hrun).inv.current tl htl

/-! Non-vacuity: a two-keyframe float configuration with a delay, reversing, repeating twice. -/
def exCfg : Config ℚ :=
  { easing := .builtin .inOutCubic, delay := 1 / 2, duration := 2, repeat_ := Repeat.times 2, reverse := true,
    keyframes := [⟨0, none, [some (.num 10), none]⟩, ⟨1, some (.builtin .outQuad), [some (.num 20), some (.num 5)]⟩] }

example : FloatCfg 2 [⟨0, .num 0⟩, ⟨1, .num 0⟩] exCfg := by
  constructor <;> simp [exCfg, numS, isBuiltin]

/-- the timelines of an animator over a struct with animated fields `fields`: each state has none, or one
built by the builder from a configuration whose keyframe values have their field's kind -/
def KindAnimatorCfg (n : Nat) (fields : List (AnimField ℚ)) (timelines : List (Option (Merged ℚ))) : Prop :=
  ∀ m, some m ∈ timelines → ∃ cfg, KindCfg n fields cfg ∧ m = Merged.mk [Timeline.build fields cfg]

/-- states whose timelines are merges (`MergedTimeline::of([...])`, what `animator!` emits for a `[ …, … ]` arm)
of builder-built timelines over the same struct -/
def MergedAnimatorCfg (n : Nat) (fields : List (AnimField ℚ)) (timelines : List (Option (Merged ℚ))) : Prop :=
  ∀ m, some m ∈ timelines → ∃ cfgs : List (Config ℚ), (∀ cfg ∈ cfgs, KindCfg n fields cfg) ∧
    m = Merged.mk (cfgs.map (Timeline.build fields))

/-- a single timeline is a merge of one -/
theorem KindAnimatorCfg.merged {n : Nat} {fields : List (AnimField ℚ)} {timelines : List (Option (Merged ℚ))}
    (h : KindAnimatorCfg n fields timelines) : MergedAnimatorCfg n fields timelines := by
  intro m hm
  obtain ⟨cfg, hc, rfl⟩ := h m hm
  exact ⟨[cfg], fun _ hx => List.mem_singleton.1 hx ▸ hc, rfl⟩

theorem reachable_good_merged {n : Nat} {fields : List (AnimField ℚ)} {timelines : List (Option (Merged ℚ))}
    {s0 : Nat} {v0 : List (Val ℚ)} (hcfg : MergedAnimatorCfg n fields timelines)
    (hv0 : KindVals n fields v0) {ops : List (AnimOp ℚ)} {a : Animator ℚ}
    (hrun : (Animator.new timelines s0 v0).run ops = .ok a) : Good (KindVals n fields) a := by
  refine reachable_good (KindVals n fields) hv0 (fun m hm => ?_) hrun
  obtain ⟨cfgs, hc, rfl⟩ := hcfg m hm
  exact build_tlOK_merged cfgs hc

/-- **C04 in full generality for built timelines**: any value kinds, any merges, any history -/
theorem no_jump_merged_animator (n : Nat) (fields : List (AnimField ℚ)) (timelines : List (Option (Merged ℚ)))
    (s0 : Nat) (v0 : List (Val ℚ)) (hcfg : MergedAnimatorCfg n fields timelines) (hv0 : KindVals n fields v0)
    (ops : List (AnimOp ℚ)) (a a' : Animator ℚ) (s : Nat)
    (hrun : (Animator.new timelines s0 v0).run ops = .ok a) (hset : a.setState s = .ok a') :
    a'.values = a.values :=
  (set_state_no_jump _ a a' s (reachable_good_merged hcfg hv0 hrun) hset).1

/-- **C04 for built timelines of any value kinds**: after any history, `set_state` leaves `current_values`
exactly unchanged — integer properties included (a `u8` colour channel interpolates through `round` and a
checked conversion, but at the moment of the state change the blended timeline still reproduces the
current value exactly). -/
theorem no_jump_built_animator (n : Nat) (fields : List (AnimField ℚ)) (timelines : List (Option (Merged ℚ)))
    (s0 : Nat) (v0 : List (Val ℚ)) (hcfg : KindAnimatorCfg n fields timelines) (hv0 : KindVals n fields v0)
    (ops : List (AnimOp ℚ)) (a a' : Animator ℚ) (s : Nat)
    (hrun : (Animator.new timelines s0 v0).run ops = .ok a) (hset : a.setState s = .ok a') :
    a'.values = a.values :=
  no_jump_merged_animator n fields timelines s0 v0 hcfg.merged hv0 ops a a' s hrun hset

/-- … and every reachable animator holds values of the right kinds that are the current timeline evaluated
at the time in state -/
theorem reachable_good_built (n : Nat) (fields : List (AnimField ℚ)) (timelines : List (Option (Merged ℚ)))
    (s0 : Nat) (v0 : List (Val ℚ)) (hcfg : KindAnimatorCfg n fields timelines) (hv0 : KindVals n fields v0)
    (ops : List (AnimOp ℚ)) (a : Animator ℚ) (hrun : (Animator.new timelines s0 v0).run ops = .ok a) :
    Good (KindVals n fields) a :=
  reachable_good_merged hcfg.merged hv0 hrun

/-! Non-vacuity: a float and a `u8` property, the `u8` one with keyframes 200 → 7. -/
def exKindCfg : Config ℚ :=
  { easing := .builtin .inOutBack, delay := 0, duration := 3, repeat_ := Repeat.infinite, reverse := false,
    keyframes := [⟨0, none, [some (.num 1), some (.int .u8 200)]⟩, ⟨1, none, [none, some (.int .u8 7)]⟩] }

example : KindCfg 3 [⟨0, .num 0⟩, ⟨2, .int .u8 0⟩] exKindCfg := by
  constructor <;> simp [exKindCfg, kindS, isBuiltin, Gen.IntKind.lo, Gen.IntKind.hi]

end C04
