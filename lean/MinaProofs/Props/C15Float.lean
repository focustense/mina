import MinaModel.Lerp
/-!
# C15 — the literal arithmetic the macro does in f32 (kernel evaluation on binary32)

`timeline!` turns `N%` into `N as f32 * 0.01` and `Nms` into `N as f32 * 0.001` at expansion time. The tables below
evaluate the same model terms at core Lean's `Float32`: the product stays within one ulp of the correctly rounded
quotient over the whole range a sentence can name.
-/
namespace C15

def ulpClose (a b : Float32) : Bool :=
  let x := a.toBits.toNat
  let y := b.toBits.toNat
  (if x ≤ y then y - x else x - y) ≤ 1

/-- for every integer percentage N ≤ 100 the position the macro computes, `N as f32 * 0.01`, is within one
ulp of the correctly rounded N/100 (e.g. 40 % gives 0.39999998, one ulp below 0.4) -/
theorem percent_table_f32 :
    (List.range 101).all (fun n => ulpClose ((lit n : Float32) * dec 1 2) (F32.ofRat false n 100)) = true := by
  decide +kernel

/-- and 0 %, 50 % and 100 % are exact -/
theorem percent_exact_f32 :
    ((lit 0 : Float32) * dec 1 2).toBits = (lit 0 : Float32).toBits ∧
    ((lit 50 : Float32) * dec 1 2).toBits = (dec 5 1 : Float32).toBits ∧
    ((lit 100 : Float32) * dec 1 2).toBits = (lit 1 : Float32).toBits := by
  decide +kernel

/-- milliseconds 1 … 1000: `N as f32 * 0.001` is within one ulp of the correctly rounded N/1000 -/
theorem millis_table_f32 :
    (List.range 1001).all (fun n => ulpClose ((lit n : Float32) * dec 1 3) (F32.ofRat false n 1000)) = true := by
  decide +kernel

end C15
