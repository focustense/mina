import MinaProofs.Lemmas.Writes
import MinaModel.Merged
/-!
# C09 — A timeline is a pure, repeatable function of time

In the model `Timeline.update` *is* a function of `(timeline value, target, time)`; that the
implementation has no hidden per-call state is what the correspondence run decides (interleaved
`upd`/`start`/`clone` sessions must match this function bit for bit). What is proved here are the laws
the property lists beyond functionality. Generic in the number system (`[Num α]`).
-/
namespace C09

variable {α : Type} [Num α]

/-- evaluating twice is idempotent -/
theorem update_idempotent (tl : Timeline α) (tgt r : List (Val α)) (time : α)
    (h : tl.update tgt time = .ok r) : tl.update r time = .ok r := by
  obtain ⟨W, hW, rfl⟩ := update_ok_iff.1 h
  exact update_ok_iff.2 ⟨W, hW, applyWrites_idem W tgt⟩

/-- the result is independent of the previous contents of the slots the timeline writes:
two targets that agree everywhere else give the same result -/
theorem update_ignores_prior_animated (tl : Timeline α) (t1 t2 : List (Val α)) (time : α)
    (hl : t1.length = t2.length)
    (hagree : ∀ k, k ∉ tl.subs.map Prod.fst → t1[k]? = t2[k]?)
    (hsame : ∀ W, tl.writes time = .ok W → ∀ k, k ∈ tl.subs.map Prod.fst → lastWrite W k = none → t1[k]? = t2[k]?) :
    tl.update t1 time = tl.update t2 time := by
  rw [update_eq_writes, update_eq_writes]
  cases hw : tl.writes time with
  | error e => rfl
  | ok W =>
    refine congrArg Except.ok (applyWrites_congr W hl fun k hk => ?_)
    by_cases hm : k ∈ tl.subs.map Prod.fst
    · exact hsame W hw k hm hk
    · exact hagree k hm

/-- whether a slot is written, and with what, does not depend on the target at all -/
theorem written_value_independent_of_target (tl : Timeline α) (t1 t2 r1 r2 : List (Val α)) (time : α)
    (hl : t1.length = t2.length) (h1 : tl.update t1 time = .ok r1) (h2 : tl.update t2 time = .ok r2)
    (k : Nat) (W : List (Nat × Val α)) (hw : tl.writes time = .ok W) (v : Val α) (hk : lastWrite W k = some v) :
    r1[k]? = r2[k]? := by
  rw [update_eq_writes, hw] at h1 h2
  cases h1; cases h2
  exact applyWrites_getElem?_congr W hl fun hn => nomatch hk.symm.trans hn

/-- the latest `start_with` fully replaces earlier ones -/
theorem startWith_last_wins (tl : Timeline α) (v w : List (Val α)) (hl : v.length = w.length) :
    (tl.startWith v).startWith w = tl.startWith w := by
  simp only [Timeline.startWith, List.map_map]
  congr 1
  apply List.map_congr_left
  intro p _
  obtain ⟨i, s⟩ := p
  simp only [Function.comp]
  by_cases hi : i < v.length
  · have hi' : i < w.length := hl ▸ hi
    simp only [List.getElem?_eq_getElem hi, List.getElem?_eq_getElem hi', overrideStart_overrideStart]
  · have hi' : ¬ i < w.length := hl ▸ hi
    simp only [List.getElem?_eq_none (not_lt.1 hi), List.getElem?_eq_none (not_lt.1 hi')]

/-- … without affecting delay, cycle duration, total duration or repeat -/
theorem startWith_keeps_metadata (tl : Timeline α) (v : List (Val α)) :
    (tl.startWith v).delay = tl.delay ∧ (tl.startWith v).cycleDuration = tl.cycleDuration ∧
    (tl.startWith v).duration = tl.duration ∧ (tl.startWith v).repeat_ = tl.repeat_ ∧
    (tl.startWith v).boundary = tl.boundary := ⟨rfl, rfl, rfl, rfl, rfl⟩

/-- and `update` never changes the timeline (it does not even return one): only `start_with` does -/
theorem merged_startWith_keeps_metadata (m : Merged α) (v : List (Val α)) :
    (m.startWith v).delay = m.delay ∧ (m.startWith v).duration = m.duration ∧
    (m.startWith v).repeat_ = m.repeat_ ∧ (m.startWith v).cycleDuration = m.cycleDuration := by
  simp only [Merged.startWith, Merged.delay, Merged.duration, Merged.repeat_, Merged.cycleDuration, List.map_map]
  refine ⟨?_, ?_, ?_, ?_⟩ <;> rfl

end C09
