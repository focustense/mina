import MinaProofs.Props.C08
import MinaModel.Macro.Derive
/-!
# C17 — `derive(Animate)` yields a correct timeline API for every struct shape

Model: `MinaModel/Macro/Derive.lean` — `expandDerive` from a struct shape (any number of fields, any
types, any subset marked `#[animate]`, any visibility, optional `#[animate(remote = "…")]`) to a
description of the generated API. The generated `update` is `applySubs` over the animated fields, i.e.
`Timeline.build` with exactly these fields, so it evaluates per C01 and leaves every other field alone
(C08); the accessors are the time-scale getters of C03.`metadata_as_configured`.
-/
namespace C17

theorem isEmpty_filter {β : Type} (p : β → Bool) (l : List β) : (l.filter p).isEmpty = !l.any p := by
  rw [Bool.eq_iff_iff]
  simp only [List.isEmpty_iff, List.filter_eq_nil_iff, Bool.not_eq_true', List.any_eq_false]

/-- the animated fields are the marked ones, or all of them when none is marked -/
theorem anim_fields_rule (fields : List DField) :
    (fields.any (·.animate) = true → animFields fields = fields.filter (·.animate)) ∧
    (fields.any (·.animate) = false → animFields fields = fields) := by
  constructor <;> intro h <;> simp only [animFields, isEmpty_filter, h] <;> rfl

/-- animated fields are always a sub-list of the struct's fields, in declaration order -/
theorem anim_fields_sublist (fields : List DField) : (animFields fields).Sublist fields := by
  cases h : fields.any (·.animate)
  · rw [(anim_fields_rule fields).2 h]
  · rw [(anim_fields_rule fields).1 h]
    exact List.filter_sublist

section output
variable (inp : DeriveInput) (out : DeriveOutput) (h : expandDerive inp = .ok out)
include h

/-- the generated keyframe builder has exactly one setter per animated field; `keyframe_from` copies
exactly the animated fields of the given value, and so does `values_from`; `update` can assign, and
`start_with` override, exactly those fields -/
theorem one_setter_per_animated_field :
    out.setters = (animFields inp.fields).map (·.name) ∧
    out.keyframeFromCopies = (animFields inp.fields).map (·.name) ∧
    out.valuesFromCopies = (animFields inp.fields).map (·.name) ∧
    out.updateAssigns = (animFields inp.fields).map (·.name) ∧
    out.startAssigns = (animFields inp.fields).map (·.name) ∧
    out.animated = (animFields inp.fields).map fun f => (f.name, f.ty) := by
  revert h
  fun_cases expandDerive inp <;> intro h <;> cases h
  exact ⟨rfl, rfl, rfl, rfl, rfl, rfl⟩

/-- a field that is not animated gets no setter, is not copied, and is never assigned by `update` -/
theorem excluded_field_untouched (f : DField) (hf : f ∈ inp.fields) (hex : f ∉ animFields inp.fields)
    (hnames : (inp.fields.map (·.name)).Nodup) :
    f.name ∉ out.setters ∧ f.name ∉ out.updateAssigns ∧ f.name ∉ out.keyframeFromCopies := by
  obtain ⟨h1, h2, _, h4, _, _⟩ := one_setter_per_animated_field inp out h
  have key : f.name ∉ (animFields inp.fields).map (·.name) := by
    intro hmem
    obtain ⟨g, hg, hgn⟩ := List.mem_map.1 hmem
    -- distinct field names: same name, same field
    cases List.inj_on_of_nodup_map hnames ((anim_fields_sublist inp.fields).subset hg) hf hgn
    exact hex hg
  rw [h1, h4, h2]
  exact ⟨key, key, key⟩

/-- names of the generated items, and the remote target: `#[animate(remote = "a::b::T")]` makes `T` the
`Timeline::Target` (and the type `keyframe_from` reads), names the items `T…`, and emits the dead-code
guard; without it the struct itself is the target -/
theorem generated_names :
    ∃ remote, applyAttrs inp.attrs none = .ok remote ∧ out.remotePath = remote.getD inp.name ∧
      (let rn := match remote with | some p => lastSegment p | none => inp.name
       out.timelineName = rn ++ "Timeline" ∧ out.dataName = rn ++ "KeyframeData" ∧
       out.builderName = rn ++ "KeyframeBuilder" ∧ out.fakeAccess = (inp.name != rn)) ∧
      out.targetName = inp.name ∧ out.vis = inp.vis := by
  revert h
  fun_cases expandDerive inp <;> intro h <;> cases h
  -- left: the one arm that returns `.ok`; every conjunct is a field of the record it builds
  exact ⟨_, ‹_›, rfl, ⟨rfl, rfl, rfl, rfl⟩, rfl, rfl⟩

end output

theorem applyAttrs_error_of_mem {a : AnimAttr} {l : List AnimAttr} (ha : a ∈ l) (hne : a.name ≠ "remote")
    (cur : Option String) : ∃ e, applyAttrs l cur = .error e := by
  fun_induction applyAttrs l cur with
  | case1 => cases ha
  | case2 b rest cur hb _ ih =>
    rcases List.mem_cons.1 ha with rfl | h
    · exact absurd (beq_iff_eq.1 hb) hne
    · exact ih h
  | case3 | case4 => exact ⟨_, rfl⟩

/-- only structs with named fields are supported; unknown struct-level attributes are refused -/
theorem unsupported_rejected (inp : DeriveInput) :
    (inp.kind ≠ .named → ∃ e, expandDerive inp = .error e) ∧
    (∀ a ∈ inp.attrs, a.name ≠ "remote" → inp.kind = .named → ∃ e, expandDerive inp = .error e) := by
  constructor
  · intro hk
    unfold expandDerive
    cases hkind : inp.kind <;> first | exact absurd hkind hk | exact ⟨_, rfl⟩
  · intro a ha hne hk
    obtain ⟨e, he⟩ := applyAttrs_error_of_mem ha hne none
    exact ⟨e, by simp only [expandDerive, hk, he]⟩

/-- the generated `update` is `applySubs` over the animated fields: built with `Timeline.build` from
exactly those fields, a field outside the list is never modified (C08), for every time and phase -/
theorem generated_update_touches_only_animated {α : Type} [Num α] (animated : List (AnimField α)) (cfg : Config α)
    (target res : List (Val α)) (time : α) (h : (Timeline.build animated cfg).update target time = .ok res)
    (i : Nat) (hi : i ∉ animated.map (·.idx)) : res[i]? = target[i]? := by
  apply C08.update_untouched _ _ _ _ h
  rw [C08.build_animated_indices]; exact hi

/-! Non-vacuity: a struct with a marked subset (the shape `Q5` of the harness). -/
example : expandDerive ⟨"Q5", "pub", .named,
      [⟨"a", "f32", true⟩, ⟨"b", "f32", false⟩, ⟨"c", "u8", true⟩, ⟨"d", "i32", false⟩, ⟨"e", "f64", true⟩], []⟩ =
    .ok { targetName := "Q5", remotePath := "Q5", timelineName := "Q5" ++ "Timeline", dataName := "Q5" ++ "KeyframeData",
          builderName := "Q5" ++ "KeyframeBuilder", vis := "pub", animated := [("a", "f32"), ("c", "u8"), ("e", "f64")],
          setters := ["a", "c", "e"], keyframeFromCopies := ["a", "c", "e"], valuesFromCopies := ["a", "c", "e"],
          updateAssigns := ["a", "c", "e"], startAssigns := ["a", "c", "e"], fakeAccess := ("Q5" != "Q5") } := by
  rfl

end C17
