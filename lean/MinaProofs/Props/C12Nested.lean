import MinaProofs.Props.C12
/-!
# C12 for a merge of merges (`MergedTimeline<MergedTimeline<T>>`)

`MergedTimeline` is itself a `Timeline`, so merges nest.  Evaluation and `start_with` of a nested merge are those of
the flat merge with the same components in the same order; the aggregate timing of the outer merge is the same fold
applied to what the inner merges *report* — so an inner merge without a common cycle duration (a disagreeing or an
empty one) takes the outer cycle duration away, wherever it stands in the list.
-/

namespace C12
variable {α : Type} [Num α]

/-- **evaluating a merge of merges is evaluating the flat merge** of all components in order -/
theorem nested_update_flat (m : Merged2 α) (tgt : List (Val α)) (time : α) :
    m.update tgt time = m.flatten.update tgt time := by
  obtain ⟨parts⟩ := m
  unfold Merged2.update Merged2.flatten Merged.update
  fun_induction Merged2.update.go time parts tgt with
  | case1 => rfl
  | case2 p rest tgt t' h ih => rw [List.flatMap_cons, update_go_append, ← Merged.update, h]; exact ih
  | case3 p rest tgt e h => rw [List.flatMap_cons, update_go_append, ← Merged.update, h]

omit [Num α] in
/-- `start_with` reaches every component of every part -/
theorem nested_startWith_flat (m : Merged2 α) (v : List (Val α)) :
    (m.startWith v).flatten = m.flatten.startWith v := by
  obtain ⟨parts⟩ := m
  simp only [Merged2.startWith, Merged2.flatten, Merged.startWith, List.flatMap_map, List.map_flatMap]

/-- the cycle-duration fold can never recover from an undefined component -/
theorem cycleFold_none (xs : List (Option α)) :
    xs.foldl (fun d1 d2 => match d1, d2 with
      | some a, some b => if a == b then some a else none
      | none, none => none
      | _, _ => none) none = none :=
  cycleFold_absorb List.mem_cons_self

/-- … and an undefined component anywhere makes the result undefined -/
theorem cycleFold_mem_none (x : Option α) (xs : List (Option α)) (h : none ∈ xs) :
    xs.foldl (fun d1 d2 => match d1, d2 with
      | some a, some b => if a == b then some a else none
      | none, none => none
      | _, _ => none) x = none :=
  cycleFold_absorb (List.mem_cons_of_mem _ h)

/-- **a cycle duration only when all components agree, nested case**: if any part of a merge of merges reports no
cycle duration — it disagrees internally, or it is empty — the outer merge reports none, whatever the position of that
part (also when it comes first) -/
theorem nested_cycle_none_of_part_none (m : Merged2 α) (p : Merged α) (hp : p ∈ m.parts)
    (hnone : p.cycleDuration = none) : m.cycleDuration = none := by
  unfold Merged2.cycleDuration
  have hmem : none ∈ m.parts.map (·.cycleDuration) := List.mem_map.2 ⟨p, hp, hnone⟩
  cases hl : m.parts.map (·.cycleDuration) with
  | nil => rfl
  | cons x xs => exact cycleFold_absorb (hl ▸ hmem)

/-- an empty inner merge reports no cycle duration, so it, too, takes the outer one away -/
theorem nested_cycle_none_of_empty_part (m : Merged2 α) (h : (⟨[]⟩ : Merged α) ∈ m.parts) :
    m.cycleDuration = none :=
  nested_cycle_none_of_part_none m ⟨[]⟩ h rfl

/-- non-vacuity: the witness of the seeded change S6-C12, `of([of([]), of([x(3s)])])`, in the model -/
example (t : Timeline ℚ) : (Merged2.mk [⟨[]⟩, ⟨[t]⟩]).cycleDuration = none :=
  nested_cycle_none_of_empty_part _ (by simp)

/-! ### aggregate timing of a merge of merges (ℚ)

The outer folds see what the inner merges report; with every part non-empty the result is the aggregate of the flat
merge.  (An *empty* part reports delay 0 and duration 0, which is why the hypothesis is needed: `of([of([]), x])` has
delay `min 0 x.delay`, the flat merge has `x.delay`; the last `example`.) -/

theorem nested_delay_min (p : Merged ℚ) (ps : List (Merged ℚ)) :
    (∀ q ∈ p :: ps, (Merged2.mk (p :: ps)).delay ≤ q.delay) ∧
    ∃ q ∈ p :: ps, (Merged2.mk (p :: ps)).delay = q.delay :=
  (.of_map (foldl_min_le (ps.map _) p.delay) : IsGreatestOn (· ≥ ·) (·.delay) (p :: ps) _)

theorem nested_duration_max (p : Merged ℚ) (ps : List (Merged ℚ)) :
    (∀ q ∈ p :: ps, durLe q.duration (Merged2.mk (p :: ps)).duration) ∧
    ∃ q ∈ p :: ps, (Merged2.mk (p :: ps)).duration = q.duration :=
  (.of_map (foldl_dur_max (ps.map _) p.duration) : IsGreatestOn durLe (·.duration) (p :: ps) _)

theorem nested_repeat_max (p : Merged ℚ) (ps : List (Merged ℚ)) :
    (∀ q ∈ p :: ps, rankLe (repeatRank q.repeat_) (repeatRank (Merged2.mk (p :: ps)).repeat_)) ∧
    ∃ q ∈ p :: ps, (Merged2.mk (p :: ps)).repeat_ = q.repeat_ :=
  (.of_map (foldl_repeat_max (ps.map _) p.repeat_) :
    IsGreatestOn (fun a b => rankLe (repeatRank a) (repeatRank b)) (·.repeat_) (p :: ps) _)

theorem durLe_antisymm {a b : Option ℚ} (h1 : durLe a b) (h2 : durLe b a) : a = b := by
  cases a <;> cases b <;> simp_all [durLe]
  exact le_antisymm h1 h2

theorem rankLe_antisymm {a b : Nat × Nat} (h1 : rankLe a b) (h2 : rankLe b a) : a = b := by
  unfold rankLe at *
  exact Prod.ext_iff.2 (by omega)

/-- every leaf timeline of a merge of merges with non-empty parts, and the part it sits in -/
theorem leaf_part (m : Merged2 ℚ) (t : Timeline ℚ) (ht : t ∈ m.flatten.timelines) :
    ∃ q ∈ m.parts, t ∈ q.timelines :=
  List.mem_flatMap.1 ht

theorem flatten_ne_nil {m : Merged2 ℚ} (hne : m.parts ≠ []) (hparts : ∀ q ∈ m.parts, q.timelines ≠ []) :
    m.flatten.timelines ≠ [] := by
  obtain ⟨p, hp⟩ := List.exists_mem_of_ne_nil _ hne
  exact fun h => hparts p hp (List.flatMap_eq_nil_iff.1 h p hp)

/-- The aggregate of the parts' aggregates and the aggregate of the flat merge are both a greatest value over all
leaves, hence equivalent. -/
theorem nested_equiv_flat {β : Type} (le : β → β → Prop) (f : Timeline ℚ → β) (g : Merged ℚ → β) (G : Merged2 ℚ → β)
    (hin : ∀ t ts, IsGreatestOn le f (t :: ts) (g ⟨t :: ts⟩)) (hout : ∀ p ps, IsGreatestOn le g (p :: ps) (G ⟨p :: ps⟩))
    (trans : ∀ {a b c}, le a b → le b c → le a c)
    {m : Merged2 ℚ} (hne : m.parts ≠ []) (hparts : ∀ q ∈ m.parts, q.timelines ≠ []) :
    le (G m) (g m.flatten) ∧ le (g m.flatten) (G m) := by
  have hin' : ∀ q : Merged ℚ, q.timelines ≠ [] → IsGreatestOn le f q.timelines (g q) := by
    rintro ⟨_ | ⟨t, ts⟩⟩ hq
    · exact absurd rfl hq
    · exact hin t ts
  have hflat := hin' m.flatten (flatten_ne_nil hne hparts)
  obtain ⟨_ | ⟨p, ps⟩⟩ := m
  · exact absurd rfl hne
  have hnest := IsGreatestOn.flatMap (fun q hq => hin' q (hparts q hq)) (hout p ps) trans
  exact ⟨hnest.le_of hflat, hflat.le_of hnest⟩

/-- **delay of a merge of merges = delay of the flat merge**, when no part is empty -/
theorem nested_delay_eq_flat (m : Merged2 ℚ) (hne : m.parts ≠ [])
    (hparts : ∀ q ∈ m.parts, q.timelines ≠ []) : m.delay = m.flatten.delay :=
  have ⟨h1, h2⟩ := nested_equiv_flat (· ≥ ·) (·.delay) (·.delay) (·.delay) merged_delay_min nested_delay_min
    (fun h1 h2 => le_trans h2 h1) hne hparts
  le_antisymm h2 h1

/-- **total duration of a merge of merges = that of the flat merge**, when no part is empty -/
theorem nested_duration_eq_flat (m : Merged2 ℚ) (hne : m.parts ≠ [])
    (hparts : ∀ q ∈ m.parts, q.timelines ≠ []) : m.duration = m.flatten.duration :=
  have ⟨h1, h2⟩ := nested_equiv_flat durLe (·.duration) (·.duration) (·.duration) merged_duration_max
    nested_duration_max durLe_trans hne hparts
  durLe_antisymm h1 h2

/-- **repeat of a merge of merges ranks with that of the flat merge** (Infinite above every count, then by count;
`None` and `Times(0)` rank together, as they compare equal in the code), when no part is empty -/
theorem nested_repeat_rank_eq_flat (m : Merged2 ℚ) (hne : m.parts ≠ [])
    (hparts : ∀ q ∈ m.parts, q.timelines ≠ []) : repeatRank m.repeat_ = repeatRank m.flatten.repeat_ :=
  have ⟨h1, h2⟩ := nested_equiv_flat (fun a b => rankLe (repeatRank a) (repeatRank b)) (·.repeat_) (·.repeat_)
    (·.repeat_) merged_repeat_max nested_repeat_max rankLe_trans hne hparts
  rankLe_antisymm h1 h2

example : ∃ m : Merged2 ℚ, m.parts ≠ [] ∧ m.delay ≠ m.flatten.delay := by
  refine ⟨⟨[⟨[]⟩, ⟨[⟨[], ⟨1, 1, .none, false⟩, []⟩]⟩]⟩, by simp, ?_⟩
  simp [Merged2.delay, Merged2.flatten, Merged.delay, minFirst, Timeline.delay, lit]

end C12
