import MinaProofs.Props.C18
/-!
# C19 — Bevy selector/chain: key changes blend smoothly and chains advance on end

Model: `selectStep` (`select_animation`), `chainStep` (`chain_animations`), `frame` (one `App::update`, for
both relative orders of the two systems bevy leaves unordered, and for both positions of an unrelated
`animate<Q>` relative to `chain_animations`). Generic in the number system unless stated.

The last clause ("the chain never fires … when some other animator on the entity ended") is false of the
code: `AnimationStateChanged` carries only the entity, not the component type (known finding F-C19,
`chain_fires_on_other_animator`); it is proved for entities with a single animated component type.
-/
namespace C19

variable {α : Type} [Num α]

/-- changing the key makes the animator play that key's timeline from its beginning, blended from the
component's current values; the selector remembers the key it applied -/
theorem select_installs_blended_clone (sel : Selector α) (a : BAnimator α) (comp : List (Val α))
    (h : sel.prevKey ≠ some sel.key) :
    let r := selectStep sel a comp
    r.2.timeline = (sel.lookup sel.key).map (·.startWith comp) ∧ r.2.posNs = 0 ∧ r.2.state = .none ∧
    r.2.enabled = a.enabled ∧ r.1.prevKey = some sel.key ∧ r.1.key = sel.key ∧ r.1.timelines = sel.timelines := by
  intro r
  simp [r, selectStep, h, BAnimator.reset]

/-- re-assigning the current key does not restart anything -/
theorem reassign_same_key_noop (sel : Selector α) (a : BAnimator α) (comp : List (Val α))
    (h : sel.prevKey = some sel.key) : selectStep sel a comp = (sel, a) := by
  simp [selectStep, h]

/-- the selector never writes the component: the frame that switches timelines leaves it unchanged —
`select_animation` has no access to it, and the freshly reset animator does not evaluate on that frame
(its position 0 is before any positive total duration) -/
theorem key_change_no_jump (sel : Selector α) (a : BAnimator α) (comp comp' : List (Val α)) (δ : Nat)
    (a' : BAnimator α) (evs : List AnimState) (h : sel.prevKey ≠ some sel.key)
    (hdur : ∀ tl, (selectStep sel a comp).2.timeline = some tl → geDur (Num.secsOfNanos 0 : α) tl.duration = false)
    (hstep : animateStep (selectStep sel a comp).2 comp δ = .ok (a', comp', evs)) : comp' = comp := by
  obtain ⟨-, h2, h3, -⟩ := select_installs_blended_clone sel a comp h
  generalize (selectStep sel a comp).2 = b at *
  cases hen : b.enabled with
  | false => rw [C18.disabled_noop b comp δ hen] at hstep; cases hstep; rfl
  | true =>
    cases htl : b.timeline with
    | none => rw [C18.no_timeline_step comp δ hen htl] at hstep; cases hstep; rfl
    | some tl =>
      obtain ⟨_, _, _, _, _, h6⟩ := C18.step_spec b a' comp comp' evs δ tl hen htl hstep
      rwa [if_neg (by simp [h2, h3, hdur tl htl])] at h6

/-- a key without a timeline stops animation and leaves the component alone -/
theorem key_without_timeline_stops (sel : Selector α) (a : BAnimator α) (comp : List (Val α)) (δ : Nat)
    (h : sel.prevKey ≠ some sel.key) (hno : sel.lookup sel.key = none) (hen : a.enabled = true) :
    animateStep (selectStep sel a comp).2 comp δ = .ok ((selectStep sel a comp).2, comp, []) := by
  obtain ⟨h1, -, h3, h4, -⟩ := select_installs_blended_clone sel a comp h
  generalize (selectStep sel a comp).2 = b at *
  rw [C18.no_timeline_step comp δ (h4.trans hen) (by rw [h1, hno]; rfl), if_neg (fun h => h h3)]
  cases b; cases h3; rfl

/-- where `chain_animations` sends key `k` on an `Ended` event: along the chain map, or nowhere -/
def hop (next : List (Nat × Nat)) (k : Nat) : Nat :=
  match next.find? (·.1 == k) with
  | some (_, k') => k'
  | none => k

omit [Num α] in
theorem chainStep_eq (next : List (Nat × Nat)) (sel : Selector α) (events : List AnimState) :
    chainStep next sel events = { sel with key := (hop next)^[events.count .ended] sel.key } := by
  induction events generalizing sel with
  | nil => rfl
  | cons e es ih =>
    rw [chainStep, List.foldl_cons, ← chainStep, ih, List.count_cons]
    by_cases he : e = .ended
    · subst he
      simp only [beq_self_eq_true, if_true, Function.iterate_succ_apply]
      unfold hop
      cases next.find? (·.1 == sel.key) <;> rfl
    · simp [he]

/-- with a chain: when `Ended` is among the events of the entity while key `k` is active and the chain
maps `k` to `k'`, the selector moves to `k'` … -/
theorem chain_fires_on_end (next : List (Nat × Nat)) (sel : Selector α) (k' : Nat)
    (hentry : next.find? (·.1 == sel.key) = some (sel.key, k')) :
    (chainStep next sel [.ended]).key = k' := by
  simp [chainStep_eq, hop, hentry]

/-- … and it never fires when no `Ended` event arrived … -/
theorem chain_silent_without_ended (next : List (Nat × Nat)) (sel : Selector α) (events : List AnimState)
    (h : ∀ e ∈ events, e ≠ .ended) : chainStep next sel events = sel := by
  rw [chainStep_eq, List.count_eq_zero.2 fun hm => h _ hm rfl]; rfl

/-- … or when the chain has no entry for the active key -/
theorem chain_silent_without_entry (next : List (Nat × Nat)) (sel : Selector α) (events : List AnimState)
    (h : next.find? (·.1 == sel.key) = none) : chainStep next sel events = sel := by
  rw [chainStep_eq, Function.iterate_fixed (by rw [hop, h])]

/-- the chain only ever changes the key; it never touches timelines or the applied-key memo -/
theorem chain_changes_key_only (next : List (Nat × Nat)) (sel : Selector α) (events : List AnimState) :
    (chainStep next sel events).timelines = sel.timelines ∧ (chainStep next sel events).prevKey = sel.prevKey := by
  rw [chainStep_eq]; exact ⟨rfl, rfl⟩

omit [Num α] in
theorem selectStep_key (sel : Selector α) (a : BAnimator α) (comp : List (Val α)) :
    (selectStep sel a comp).1.key = sel.key := by
  fun_cases selectStep sel a comp <;> rfl

theorem frame_sel {w w' : World α} {δ : Nat} {chainFirst qFirst : Bool} {evP evQ : List AnimState}
    (h : frame w δ chainFirst qFirst = .ok (w', evP, evQ)) :
    (w.animQ = none → evQ = []) ∧
    w'.sel = w.sel.map fun s =>
      let chain (x : Selector α) : Selector α :=
        match w.chain with
        | some next => chainStep next x (if qFirst then w.pending ++ evQ else w.pending)
        | none => x
      if chainFirst then (selectStep (chain s) w.animP w.compP).1 else chain (selectStep s w.animP w.compP).1 := by
  revert h
  fun_cases frame w δ chainFirst qFirst <;> intro h <;> cases h
  -- `w` is taken apart so that the case splits below reach inside the local definitions of `frame`
  obtain ⟨compP, animP, sel, chain, compQ, animQ, pending⟩ := w
  rename_i hq _ _ hsel
  cases congrArg Prod.fst hsel
  refine ⟨?_, ?_⟩
  · rintro rfl; cases show Except.ok _ = Except.ok _ from hq; rfl
  · cases sel <;> cases chain <;> cases chainFirst <;> rfl

/-- in one frame the key stays where it is unless an `Ended` event is among those `chain_animations` reads — whichever
animator of the entity sent it, in either order of the two systems -/
theorem key_moves_only_on_ended {w w' : World α} {δ : Nat} {chainFirst qFirst : Bool} {evP evQ : List AnimState}
    (hev : ∀ e ∈ (if qFirst then w.pending ++ evQ else w.pending), e ≠ .ended)
    {s : Selector α} (hs : w.sel = some s)
    (h : frame w δ chainFirst qFirst = .ok (w', evP, evQ)) :
    ∃ s', w'.sel = some s' ∧ s'.key = s.key := by
  obtain ⟨-, hsel⟩ := frame_sel h
  rw [hs] at hsel
  refine ⟨_, hsel, ?_⟩
  cases w.chain <;> cases chainFirst <;> simp [selectStep_key, chain_silent_without_ended _ _ _ hev]

/-- **single animated component type** (`animQ = none`): in one frame the key moves only if the governed
animator itself announced `Ended` in the previous frame — in either order of the two systems -/
theorem chain_only_on_own_end (w w' : World α) (δ : Nat) (chainFirst qFirst : Bool) (evP evQ : List AnimState)
    (hq : w.animQ = none) (hpend : ∀ e ∈ w.pending, e ≠ .ended)
    (s : Selector α) (hs : w.sel = some s)
    (h : frame w δ chainFirst qFirst = .ok (w', evP, evQ)) :
    ∃ s', w'.sel = some s' ∧ s'.key = s.key := by
  refine key_moves_only_on_ended ?_ hs h
  rwa [(frame_sel h).1 hq, List.append_nil, ite_self]

/-- **Refutation of the last clause** (F-C19): an entity with a second, unrelated animator Q. Q's short
timeline ends; one frame later the chain on P moves key 0 → 1 although P's own animation (100 s) is
nowhere near its end. Evaluated by the kernel on the model at ℚ, for the order `select`, then `chain`. -/
theorem chain_fires_on_other_animator :
    let k (t v : ℚ) : Keyframe ℚ := ⟨t, none, [some (.num v)]⟩
    let tlP : Merged ℚ := ⟨[Timeline.build [⟨0, .num 0⟩] { (Config.default : Config ℚ) with duration := 100, keyframes := [k 0 0, k 1 9] }]⟩
    let tlQ : Merged ℚ := ⟨[Timeline.build [⟨0, .num 0⟩] { (Config.default : Config ℚ) with duration := 1 / 1000, keyframes := [k 0 0, k 1 1] }]⟩
    let w0 : World ℚ := { compP := [.num 0], animP := BAnimator.new, sel := some ⟨[(0, tlP), (1, tlP)], 0, none⟩,
                          chain := some [(0, 1)], compQ := [.num 0], animQ := some { (BAnimator.new : BAnimator ℚ) with timeline := some tlQ },
                          pending := [] }
    (match frame w0 10000000 false with
     | .ok (w1, _, _) =>
       match frame w1 10000000 false with
       | .ok (w2, _, evQ) =>
         match frame w2 10000000 false with
         | .ok (w3, _, _) =>
           -- Q announced Ended in frame 2; in frame 3 P's key has moved although P is still Playing
           decide (evQ = [.ended]) && decide ((w3.sel.map (·.key)) = some 1) && decide (w3.animP.state ≠ .ended) &&
             decide ((w2.sel.map (·.key)) = some 0)
         | .error _ => false
       | .error _ => false
     | .error _ => false) = true := by
  decide +kernel

end C19
