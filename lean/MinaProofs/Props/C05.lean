import MinaProofs.Props.C04
/-!
# C05 — Animator values follow the documented blend/pause/resume rules for any history

Stated as a refinement of the concrete animator to the *documented rules*: after any history the state
is `Good` (C04), whose `AnimInv` is the first sentence of the property — `current_values` is the current
state's timeline evaluated at the time spent in that state (a fixpoint of its `update` there), and that
timeline was started from the values held when the state was entered (`enter_blends_from_current`).
The one-step rules below are the second sentence; `good_run` (C04) lifts them over all histories.
Generic in the number system.
-/
namespace C05

variable {α : Type} [Num α]
open Animator

/-- `current_state` reports the last state set -/
theorem current_state_is_last_set (a a' : Animator α) (s : Nat) (h : a.setState s = .ok a') : a'.state = s := by
  rcases setState_eq_ok h with ⟨rfl, rfl⟩ | ⟨-, h⟩
  · rfl
  · obtain ⟨v, rfl⟩ := updateValues_shape h
    exact switchTo_state a s

/-- `advance` does not change the state, and adds exactly the elapsed nanoseconds to the time in state -/
theorem advance_clock (a a' : Animator α) (ns : Nat) (h : a.advanceNs ns = .ok a') :
    a'.state = a.state ∧ a'.stateNs = a.stateNs + ns ∧ a'.paused = a.paused := by
  obtain ⟨v, rfl⟩ := advanceNs_shape h
  exact ⟨rfl, rfl, rfl⟩

/-- after any history, `current_values` is the current state's timeline evaluated at the time spent in
that state (first sentence of the property), by C04.`good_run` -/
theorem values_follow_timeline (P : List (Val α) → Prop) (timelines : List (Option (Merged α))) (s0 : Nat) (v0 : List (Val α))
    (hlen : P v0) (hblend : ∀ m, some m ∈ timelines → C04.TlOK P m)
    (ops : List (AnimOp α)) (a : Animator α) (hrun : (Animator.new timelines s0 v0).run ops = .ok a)
    (tl : Merged α) (htl : a.timeline? a.state = some tl) :
    tl.update a.values (Num.secsOfNanos a.stateNs) = .ok a.values :=
  (C04.reachable_good P hlen hblend hrun).inv.current tl htl

/-- entering a state (not a resume) starts its timeline from the values held at that moment, with the
clock at zero -/
theorem enter_blends_from_current (a : Animator α) (s : Nat) (tl : Merged α) (htl : a.timeline? s = some tl) :
    (a.enter s).timeline? s = some (tl.startWith a.values) ∧ (a.enter s).stateNs = 0 :=
  ⟨by rw [enter_timeline?, if_pos rfl, htl]; rfl, rfl⟩

/-- the pause bookkeeping of a `set_state` that is not a resume, in one equation: entering an animated state
forgets the pause, leaving an animated state for an un-animated one records it, passing between
un-animated states keeps it -/
theorem pause_rule {a a' : Animator α} {s : Nat} (hne : s ≠ a.state) (hres : a.resumePos s = none)
    (h : a.setState s = .ok a') :
    a'.paused = if (a.timeline? s).isSome then none
      else if (a.timeline? a.state).isSome then some (a.state, a.stateNs) else a.paused := by
  obtain ⟨v, rfl⟩ := setState_shape hne h
  simp only [switchTo_enter hres, enter_paused, notePause_eq]

/-- entering a state without a timeline, coming from an animated one, freezes the values and remembers
the interrupted animation and its position -/
theorem pause_is_remembered (a a' : Animator α) (s : Nat) (hne : s ≠ a.state)
    (hwas : (a.timeline? a.state).isSome = true) (hwill : a.timeline? s = none) (hres : a.resumePos s = none)
    (h : a.setState s = .ok a') :
    a'.paused = some (a.state, a.stateNs) ∧ a'.values = a.values := by
  refine ⟨(pause_rule hne hres h).trans (by simp [hwas, hwill]), ?_⟩
  -- the new state has no timeline, so the final `update_current_values` does nothing
  have hnone : (a.switchTo s).timeline? (a.switchTo s).state = none := by
    simp only [switchTo_enter hres, timeline?_mk, enter_timeline?, if_true, hwill, Option.map_none]
  rw [setState_of_ne hne, updateValues_of_none hnone] at h
  cases h
  exact switchTo_values a s

/-- returning to the interrupted state resumes it at the remembered position -/
theorem resume_restores_position (a a' : Animator α) (s pos : Nat) (hne : s ≠ a.state)
    (hp : a.paused = some (s, pos)) (h : a.setState s = .ok a') : a'.stateNs = pos ∧ a'.state = s := by
  obtain ⟨v, rfl⟩ := setState_shape hne h
  rw [switchTo_resume hp]
  exact ⟨rfl, rfl⟩

/-- passing through further un-animated states keeps the remembered animation -/
theorem pause_survives_unanimated (a a' : Animator α) (s : Nat) (hne : s ≠ a.state)
    (hwas : a.timeline? a.state = none) (hwill : a.timeline? s = none) (hres : a.resumePos s = none)
    (h : a.setState s = .ok a') : a'.paused = a.paused :=
  (pause_rule hne hres h).trans (by simp [hwas, hwill])

/-- entering any *other animated* state discards the remembered position, so that a later return blends
afresh (this is the repaired behaviour) -/
theorem pause_discarded_on_other_animated (a a' : Animator α) (s : Nat) (hne : s ≠ a.state)
    (hwill : (a.timeline? s).isSome = true) (hres : a.resumePos s = none)
    (h : a.setState s = .ok a') : a'.paused = none :=
  (pause_rule hne hres h).trans (by simp [hwill])

/-- … and a remembered pause for another state only exists while the current state is un-animated
(part of the invariant, over any history) -/
theorem pause_only_while_unanimated (P : List (Val α) → Prop) (timelines : List (Option (Merged α))) (s0 : Nat) (v0 : List (Val α))
    (hlen : P v0) (hblend : ∀ m, some m ∈ timelines → C04.TlOK P m)
    (ops : List (AnimOp α)) (a : Animator α) (hrun : (Animator.new timelines s0 v0).run ops = .ok a)
    (ps pos : Nat) (hp : a.paused = some (ps, pos)) (hne : ps ≠ a.state) : a.timeline? a.state = none :=
  ((C04.reachable_good P hlen hblend hrun).inv.paused ps pos hp hne).1

end C05
