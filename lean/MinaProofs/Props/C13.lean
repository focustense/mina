import MinaProofs.Lemmas.RatNum
import MinaModel.Easing
import MinaModel.Spec.Published
/-!
# C13 — Easing curves have fixed endpoints, stay in range, and match their definitions

Model: `MinaModel/Easing.lean` at `α = ℚ`; the 29 variants and their control points are the table
regenerated from `core/src/easing.rs` on every run (`Gen.EasingId`), so each statement below is
re-checked against the constants the code has *now*.

The last sentence of the property (equality with the CSS *timing function* evaluated at horizontal
position x) is false of the unchanged code: `calc(x)` is lyon's `y(t)` at parameter `t = x`
(`ease_is_parametric`), and `timing_function_refuted` exhibits, for every one of the 28 curves, a
rational point where the two differ (known finding F-C13). Everything else is proved.
-/
namespace C13
open Gen

/-- the Bernstein form of what the code computes -/
theorem bezY_poly (c1 c2 t : ℚ) :
    bezY c1 c2 t = 3 * c1 * (1 - t) ^ 2 * t + 3 * c2 * (1 - t) * t ^ 2 + t ^ 3 := by
  simp only [bezY, lit_rat]; push_cast; ring

theorem bezY_zero (c1 c2 : ℚ) : bezY c1 c2 0 = 0 := by rw [bezY_poly]; ring
theorem bezY_one (c1 c2 : ℚ) : bezY c1 c2 1 = 1 := by rw [bezY_poly]; ring

/-- every built-in easing maps 0 to 0 … -/
theorem ease_zero (e : EasingId) : (Easing.builtin e).calc (0 : ℚ) = 0 := by
  simp only [Easing.calc]; split <;> simp [bezY_zero]
/-- … and 1 to 1, exactly (whatever the control points in the table are) -/
theorem ease_one (e : EasingId) : (Easing.builtin e).calc (1 : ℚ) = 1 := by
  simp only [Easing.calc]; split <;> simp [bezY_one]

/-- `Linear` is the identity -/
theorem linear_is_id (x : ℚ) : (Easing.builtin .linear).calc x = x := by
  simp [Easing.calc, EasingId.curve]

/-- a custom easing is used as given -/
theorem custom_used_as_given (n : Nat) (x : ℚ) : (Easing.custom n).calc x = customEasing n x := rfl

/-- what the code computes: the curve's y at parameter `t = x` -/
theorem ease_is_parametric (e : EasingId) (x1 y1 x2 y2 : Int) (h : e.curve = some (x1, y1, x2, y2)) (x : ℚ) :
    (Easing.builtin e).calc x = bezY (ctrl y1) (ctrl y2) x := by
  simp [Easing.calc, h]

theorem ctrl_rat (i : Int) : (ctrl i : ℚ) = (i : ℚ) / 10 ^ easingScaleExp := by
  cases i with
  | ofNat n => simp [ctrl]
  | negSucc n => simp [ctrl, Int.negSucc_eq]; ring

theorem mem_all (e : EasingId) : e ∈ EasingId.all :=
  List.contains_iff_mem.1 (by cases e <;> decide +kernel)

def isBack (e : EasingId) : Bool := Spec.backFamily.contains e.name

/-- the generated table equals the published control points -/
theorem easingTable_eq_published :
    EasingId.all.map (fun e => (e.name, e.curve)) = Spec.published ∧ easingScaleExp = Spec.publishedScaleExp := by
  decide +kernel

/-- non-Back curves have ordered control ordinates in [0, 1] -/
theorem nonBack_control_ys_ordered :
    ∀ e ∈ EasingId.all, isBack e = false → ∀ c, e.curve = some c → 0 ≤ c.2.1 ∧ c.2.1 ≤ c.2.2.2 ∧ c.2.2.2 ≤ (10 : Int) ^ easingScaleExp := by
  decide +kernel

/-! With ordered control ordinates `0 ≤ c1 ≤ c2 ≤ 1` the curve is a convex combination, with weights `c1`, `c2 - c1`,
`1 - c2`, of the three cumulative Bernstein polynomials of degree 3, and each of those rises on `[0, 1]`.  The range
follows from monotonicity and the fixed endpoints. -/

theorem bezY_cumulative (c1 c2 t : ℚ) :
    bezY c1 c2 t = c1 * (1 - (1 - t) ^ 3) + (c2 - c1) * (t ^ 2 * (3 - 2 * t)) + (1 - c2) * t ^ 3 := by
  rw [bezY_poly]; ring

theorem cumulative_mono {s t : ℚ} (hs : 0 ≤ s) (hst : s ≤ t) (ht : t ≤ 1) :
    1 - (1 - s) ^ 3 ≤ 1 - (1 - t) ^ 3 ∧ s ^ 2 * (3 - 2 * s) ≤ t ^ 2 * (3 - 2 * t) ∧ s ^ 3 ≤ t ^ 3 := by
  refine ⟨sub_le_sub_left (pow_le_pow_left₀ (sub_nonneg.2 ht) (sub_le_sub_left hst 1) 3) _, ?_,
    pow_le_pow_left₀ hs hst 3⟩
  have e : t ^ 2 * (3 - 2 * t) - s ^ 2 * (3 - 2 * s) = (t - s) * (s * (3 - 2 * s - t) + t * (3 - 2 * t - s)) := by
    ring
  rw [← sub_nonneg, e]
  exact mul_nonneg (sub_nonneg.2 hst)
    (add_nonneg (mul_nonneg hs (by linarith)) (mul_nonneg (hs.trans hst) (by linarith)))

theorem bezY_mono (c1 c2 s t : ℚ) (h0 : 0 ≤ c1) (h2 : c2 ≤ 1) (h1 : c1 ≤ c2)
    (hs0 : 0 ≤ s) (hst : s ≤ t) (ht1 : t ≤ 1) : bezY c1 c2 s ≤ bezY c1 c2 t := by
  obtain ⟨m1, m2, m3⟩ := cumulative_mono hs0 hst ht1
  rw [bezY_cumulative, bezY_cumulative]
  exact add_le_add (add_le_add (mul_le_mul_of_nonneg_left m1 h0) (mul_le_mul_of_nonneg_left m2 (sub_nonneg.2 h1)))
    (mul_le_mul_of_nonneg_left m3 (sub_nonneg.2 h2))

theorem bezY_in_unit (c1 c2 t : ℚ) (h0 : 0 ≤ c1) (h2 : c2 ≤ 1) (h1 : c1 ≤ c2) (ht0 : 0 ≤ t) (ht1 : t ≤ 1) :
    0 ≤ bezY c1 c2 t ∧ bezY c1 c2 t ≤ 1 :=
  ⟨(bezY_zero c1 c2).symm.trans_le (bezY_mono c1 c2 0 t h0 h2 h1 le_rfl ht0 ht1),
    (bezY_mono c1 c2 t 1 h0 h2 h1 ht0 ht1 le_rfl).trans_eq (bezY_one c1 c2)⟩

theorem ctrl_bounds (y : Int) (h0 : 0 ≤ y) (h1 : y ≤ (10 : Int) ^ easingScaleExp) :
    0 ≤ (ctrl y : ℚ) ∧ (ctrl y : ℚ) ≤ 1 := by
  rw [ctrl_rat]
  have hp : (0 : ℚ) < 10 ^ easingScaleExp := by positivity
  exact ⟨div_nonneg (Int.cast_nonneg h0) hp.le, (div_le_one hp).2 (by exact_mod_cast h1)⟩

theorem ctrl_mono (a b : Int) (h : a ≤ b) : (ctrl a : ℚ) ≤ ctrl b := by
  rw [ctrl_rat, ctrl_rat]
  exact div_le_div_of_nonneg_right (Int.cast_le.2 h) (by positivity)

/-- every built-in easing except the Back family is non-decreasing on [0,1] … -/
theorem ease_mono (e : EasingId) (hb : isBack e = false) (s t : ℚ) (hs : 0 ≤ s) (hst : s ≤ t) (ht : t ≤ 1) :
    (Easing.builtin e).calc s ≤ (Easing.builtin e).calc t := by
  cases hc : e.curve with
  | none => simp [Easing.calc, hc, hst]
  | some c =>
    obtain ⟨x1, y1, x2, y2⟩ := c
    have hto := nonBack_control_ys_ordered e (mem_all e) hb _ hc
    rw [ease_is_parametric e x1 y1 x2 y2 hc, ease_is_parametric e x1 y1 x2 y2 hc]
    have b1 := ctrl_bounds y1 hto.1 (le_trans hto.2.1 hto.2.2)
    have b2 := ctrl_bounds y2 (le_trans hto.1 hto.2.1) hto.2.2
    exact bezY_mono _ _ s t b1.1 b2.2 (ctrl_mono _ _ hto.2.1) hs hst ht

/-- … and so, rising from 0 to 1, stays within [0,1] there -/
theorem ease_in_unit (e : EasingId) (hb : isBack e = false) (x : ℚ) (h0 : 0 ≤ x) (h1 : x ≤ 1) :
    0 ≤ (Easing.builtin e).calc x ∧ (Easing.builtin e).calc x ≤ 1 :=
  ⟨(ease_zero e).symm.trans_le (ease_mono e hb 0 x le_rfl h0 h1),
    (ease_mono e hb x 1 h0 h1 le_rfl).trans_eq (ease_one e)⟩

/-- control points of `o` are the point-mirror (about (½,½)) of those of `i`, both coordinates -/
def mirrored (i o : EasingId) : Bool :=
  match i.curve, o.curve with
  | some (a, b, c, d), some (a', b', c', d') =>
    let S : Int := 10 ^ easingScaleExp
    a' == S - c && b' == S - d && c' == S - a && d' == S - b
  | none, none => true
  | _, _ => false

theorem table_pairs_mirrored :
    Spec.inOutPairs.all (fun p => match EasingId.ofName? p.1, EasingId.ofName? p.2 with
      | some i, some o => mirrored i o | _, _ => false) = true := by decide +kernel

theorem table_self_mirrored :
    Spec.selfMirrored.all (fun n => match EasingId.ofName? n with
      | some e => mirrored e e | none => false) = true := by decide +kernel

theorem bezY_mirror (c1 c2 x : ℚ) : bezY (1 - c2) (1 - c1) x = 1 - bezY c1 c2 (1 - x) := by
  rw [bezY_poly, bezY_poly]; ring

theorem ctrl_sub (y : Int) : (ctrl ((10 : Int) ^ easingScaleExp - y) : ℚ) = 1 - ctrl y := by
  rw [ctrl_rat, ctrl_rat]
  have hp : (10 : ℚ) ^ easingScaleExp ≠ 0 := by positivity
  push_cast; field_simp

/-- each In/Out pair is the point mirror of the other; each InOut curve is its own mirror
(apply with `table_pairs_mirrored` / `table_self_mirrored`) -/
theorem mirrored_point_mirror (i o : EasingId) (h : mirrored i o = true) (x : ℚ) :
    (Easing.builtin o).calc x = 1 - (Easing.builtin i).calc (1 - x) := by
  unfold mirrored at h
  split at h
  · rename_i a b c d a' b' c' d' hi ho
    simp only [Bool.and_eq_true, beq_iff_eq] at h
    rw [ease_is_parametric o a' b' c' d' ho, ease_is_parametric i a b c d hi, h.1.1.2, h.2, ctrl_sub, ctrl_sub,
      bezY_mirror]
  · rename_i hi ho
    simp [Easing.calc, hi, ho]
  · cases h

/-- at the curve point with parameter ¼ — horizontal position `X = Bx(¼)`, height `By(¼)` — the code
returns `By(X)`; `true` iff that differs from the height of the curve there -/
def timingMismatch (e : EasingId) : Bool :=
  match e.curve with
  | none => false
  | some (x1, y1, x2, y2) =>
    let X : ℚ := bezY (ctrl x1) (ctrl x2) (1 / 4)
    (Easing.builtin e).calc X != bezY (ctrl y1) (ctrl y2) (1 / 4)

/-- For every one of the 28 Bezier curves the value the code produces at horizontal position
`X = Bx(¼)` is *not* the curve's height over `X`: `calc` is the parametric sample, not the CSS
timing function. (Known finding F-C13; the negation of the property's last sentence.) -/
theorem timing_function_refuted :
    (EasingId.all.filter (fun e => e.curve.isSome)).all timingMismatch = true := by decide +kernel

/-- in IEEE binary32 every built-in easing maps +0.0 to +0.0 and 1.0 to 1.0 bit-exactly -/
theorem endpoints_exact_f32 :
    EasingId.all.all (fun e =>
      ((Easing.builtin e).calc (lit 0 : Float32)).toBits == (lit 0 : Float32).toBits &&
      ((Easing.builtin e).calc (lit 1 : Float32)).toBits == (lit 1 : Float32).toBits) = true := by
  decide +kernel

/-! Non-vacuity: the table has 29 entries, 26 of them non-Back Bezier-or-linear curves. -/
example : EasingId.all.length = 29 ∧ (EasingId.all.filter (fun e => !isBack e)).length = 26 := by decide +kernel

end C13
