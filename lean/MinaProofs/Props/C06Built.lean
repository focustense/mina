import MinaProofs.Lemmas.StableWrites
/-!
# C06, closed form for builder-built timelines

For every state animator whose states carry merges of builder-built timelines (any animated value kinds,
any easings, any repeat/reverse/delay; duration > 0 and keyframe positions in [0, 1]) and after **any**
history of `advance` / `set_state`: `advance(a); advance(b)` and `advance(a + b)` yield the identical
animator record. The `StableWrites` hypothesis of `C06.advance_add` is discharged by
`builtLike_fixedIdx` (lookup theorem + position ∈ [0, 1]). Arithmetic: exact (ℚ); the clock is whole
nanoseconds.
-/
namespace C06

/-- a merge whose members all descend from `Timeline.build` by `start_with` calls -/
def BuiltMerged (m : Merged ℚ) : Prop := ∀ tl ∈ m.timelines, ∃ cfg, BuiltCfg cfg ∧ BuiltLike cfg tl

theorem builtMerged_startWith (m : Merged ℚ) (w : List (Val ℚ)) (h : BuiltMerged m) : BuiltMerged (m.startWith w) :=
  List.forall_mem_map.2 fun tl htl => (h tl htl).imp fun cfg hc => ⟨hc.1, startWith_builtLike w hc.2⟩

/-- the slots a built merge writes do not depend on the time -/
theorem builtMerged_stable (m : Merged ℚ) (h : BuiltMerged m) : StableWrites m := by
  apply stableWrites_of_fixedIdx
  intro tl htl
  obtain ⟨cfg, hc, hb⟩ := h tl htl
  exact builtLike_fixedIdx hc tl hb

/-- the position handed to the keyframes is always inside [0, 1] (C03's range claim) -/
theorem position_in_unit (ts : TimeScale ℚ) (hd : 0 < ts.duration) (t : ℚ) :
    0 ≤ (ts.position t).value ∧ (ts.position t).value ≤ 1 := position_value_unit ts hd t

/-- the states' timelines as the builder produces them: each a merge of `Timeline.build fields cfg` -/
def BuiltAnimatorCfg (timelines : List (Option (Merged ℚ))) : Prop :=
  ∀ m, some m ∈ timelines → ∃ parts : List (List (AnimField ℚ) × Config ℚ),
    (∀ p ∈ parts, BuiltCfg p.2) ∧ m = Merged.mk (parts.map fun p => Timeline.build p.1 p.2)

/-- **The property (frame-rate independence), hypothesis-free for built timelines.** After any history, two
advances equal one advance by the sum — the whole record, not only the values. -/
theorem advance_add_built (timelines : List (Option (Merged ℚ))) (s0 : Nat) (v0 : List (Val ℚ))
    (hcfg : BuiltAnimatorCfg timelines) (ops : List (AnimOp ℚ)) (a : Animator ℚ)
    (hrun : (Animator.new timelines s0 v0).run ops = .ok a)
    (m n : Nat) (a1 a2 a12 : Animator ℚ)
    (h1 : a.advanceNs m = .ok a1) (h2 : a1.advanceNs n = .ok a2) (h12 : a.advanceNs (m + n) = .ok a12) :
    a2 = a12 := by
  have hq : ∀ s tl, a.timeline? s = some tl → BuiltMerged tl := by
    refine Animator.All.run (Animator.all_new ?_ (fun m => builtMerged_startWith m v0) s0) builtMerged_startWith hrun
    intro mm hm
    obtain ⟨parts, hp, rfl⟩ := hcfg mm hm
    exact List.forall_mem_map.2 fun p hpm => ⟨p.2, hp p hpm, build_builtLike p.1 p.2⟩
  exact advance_add a a1 a2 a12 m n (fun tl htl => builtMerged_stable tl (hq _ tl htl)) h1 h2 h12

/-- whether an evaluation succeeds does not depend on the target (only integer-range checks on the timeline's
own frames can fail), so a step that succeeds from `a` also succeeds from the intermediate animator -/
theorem advance_continue_ok {α : Type} [Num α] (a a1 c : Animator α) (m k : Nat)
    (h1 : a.advanceNs m = .ok a1) (hone : a.advanceNs (m + k) = .ok c) : ∃ c1, a1.advanceNs k = .ok c1 := by
  obtain ⟨v1, rfl⟩ := Animator.advanceNs_shape h1
  obtain ⟨hlt, hu⟩ := Animator.advanceNs_eq_ok.1 hone
  rw [← Nat.add_assoc] at hlt hu
  let b : Animator α := ⟨a.timelines, a.state, v1, a.paused, a.stateNs + m + k⟩
  cases htl : a.timeline? a.state with
  | none => exact ⟨b, Animator.advanceNs_eq_ok.2 ⟨hlt, Animator.updateValues_of_none (a := b) htl⟩⟩
  | some tl =>
    -- the writes at the final time exist, and apply to any target
    obtain ⟨W, hW, -⟩ := C12.merged_update_ok_iff.1 (Animator.updateValues_values hu htl)
    exact ⟨_, Animator.advanceNs_eq_ok.2 ⟨hlt,
      Animator.updateValues_of_some (a := b) htl (C12.merged_update_ok_iff.2 ⟨W, hW, rfl⟩)⟩⟩

/-- **any partition of an interval into whole-nanosecond steps gives the same animator as the single step** -/
theorem partition_independent (a : Animator ℚ) (hq : ∀ s tl, a.timeline? s = some tl → BuiltMerged tl)
    (steps : List Nat) (b c : Animator ℚ)
    (hsteps : a.run (steps.map AnimOp.advanceNs) = .ok b) (hone : a.advanceNs steps.sum = .ok c)
    (hne : steps ≠ []) : b = c := by
  induction steps generalizing a c with
  | nil => exact absurd rfl hne
  | cons m rest ih =>
    obtain ⟨a1, h1, hsteps⟩ := Animator.run_cons_eq_ok.1 hsteps
    have h1 : a.advanceNs m = .ok a1 := h1  -- `step (.advanceNs m)` is `advanceNs m` by definition
    by_cases hr : rest = []
    · subst hr
      cases hsteps
      exact Except.ok.inj (h1.symm.trans hone)
    · -- the remaining steps start where one step of their total length would
      rw [List.sum_cons, ← advanceNs_add (fun tl htl => builtMerged_stable tl (hq _ tl htl)) h1] at hone
      exact ih a1 (Animator.All.advanceNs hq h1) c hsteps hone hr

/-! Non-vacuity: a state without a timeline and one whose timeline animates a float and an integer-kind property,
with a custom easing, a negative delay, infinite repeat and two keyframes at the same position. -/
example : BuiltAnimatorCfg [none, some (Merged.mk [Timeline.build [⟨0, .num 0⟩, ⟨1, .int .u8 0⟩]
    { easing := .custom 2, delay := -1, duration := 3, repeat_ := .infinite, reverse := true,
      keyframes := [⟨1 / 2, none, [some (.num 1), some (.int .u8 200)]⟩, ⟨1 / 2, none, [none, some (.int .u8 7)]⟩] }])] := by
  intro m hm
  obtain rfl : m = _ := by simpa using hm
  refine ⟨[(_, _)], List.forall_mem_singleton.2 ?_, rfl⟩
  constructor <;> norm_num

end C06
