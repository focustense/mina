import MinaProofs.Lemmas.RatNum
import MinaModel.Quat
/-!
# C14 for `Quat` / `DQuat` — what `impl Lerp for Quat` (glam's normalised lerp) guarantees in exact arithmetic

Model: `MinaModel/Quat.lean` at `α = ℚ`.  The square root is a parameter; the theorems need it only at the one point
where it is used, and only to be a square root there (`r * r = d`), so nothing is assumed that ℚ cannot provide (the
`example`s at the end instantiate the hypotheses).

* the result has unit length whenever the interpolated vector is not zero — for **every** `s`, also outside [0,1];
* `lerp(a, b, 0) = a` and `lerp(a, a, x) = a` for unit `a`; `lerp(a, b, 1) = ±b` for unit `b`, `+b` exactly when the
  two lie in the same half-space (the short way round) — with glam's two different tie rules: the f32 code looks at the
  sign *bit* of the dot product, the f64 code at `dot >= 0`; they agree except on a dot product of −0, which ℚ lacks.
-/
namespace C14
open Q4

/-- the two dot products are the same number in exact arithmetic (they differ in binary32/64 rounding only) -/
theorem dotSse_eq_dotScalar (a b : Q4 ℚ) : dotSse a b = dotScalar a b := by
  simp only [dotSse, dotScalar]; ring

/-- the vector that gets normalised (SSE2 order of operations) -/
def interpSse (flip : Bool) (a b : Q4 ℚ) (s : ℚ) : Q4 ℚ :=
  let e := if flip then b.map (- ·) else b
  (zip (· - ·) e a |>.map (· * s)) |> (zip (· + ·) · a)

theorem lerpSse_eq (sqrt : ℚ → ℚ) (sb : ℚ → Bool) (a b : Q4 ℚ) (s : ℚ) :
    lerpSse sqrt sb a b s =
      (interpSse (sb (dotSse a b)) a b s).map (· / sqrt (dotSse (interpSse (sb (dotSse a b)) a b s) (interpSse (sb (dotSse a b)) a b s))) := rfl

theorem dotSse_map_div (v w : Q4 ℚ) (r : ℚ) : dotSse (v.map (· / r)) (w.map (· / r)) = dotSse v w / (r * r) := by
  simp only [dotSse, Q4.map]; ring

/-- **unit length**, for every `s`: if the interpolated vector `v` is not zero and `sqrt` is a square root at `v·v` -/
theorem quat_lerp_unit (sqrt : ℚ → ℚ) (sb : ℚ → Bool) (a b : Q4 ℚ) (s : ℚ)
    (hsq : let v := interpSse (sb (dotSse a b)) a b s; sqrt (dotSse v v) * sqrt (dotSse v v) = dotSse v v)
    (hne : let v := interpSse (sb (dotSse a b)) a b s; dotSse v v ≠ 0) :
    dotSse (lerpSse sqrt sb a b s) (lerpSse sqrt sb a b s) = 1 := by
  rw [lerpSse_eq, dotSse_map_div, hsq, div_self hne]

theorem interp_at_zero (flip : Bool) (a b : Q4 ℚ) : interpSse flip a b 0 = a := by
  cases a; simp [interpSse, Q4.zip, Q4.map]

theorem interp_at_one (flip : Bool) (a b : Q4 ℚ) :
    interpSse flip a b 1 = if flip then b.map (- ·) else b := by
  cases a; cases b; cases flip <;> simp [interpSse, Q4.zip, Q4.map]

theorem interp_same (a : Q4 ℚ) (s : ℚ) : interpSse false a a s = a := by
  cases a; simp [interpSse, Q4.zip, Q4.map]

theorem map_div_one (a : Q4 ℚ) : a.map (· / 1) = a := by cases a; simp [Q4.map]

/-- `lerp(a, b, 0) = a` for a unit quaternion `a` -/
theorem quat_lerp_at_zero (sqrt : ℚ → ℚ) (sb : ℚ → Bool) (a b : Q4 ℚ) (h1 : sqrt 1 = 1) (ha : dotSse a a = 1) :
    lerpSse sqrt sb a b 0 = a := by
  rw [lerpSse_eq, interp_at_zero, ha, h1, map_div_one]

theorem dot_neg_neg (b : Q4 ℚ) : dotSse (b.map (- ·)) (b.map (- ·)) = dotSse b b := by
  cases b; simp [dotSse, Q4.map]

/-- `lerp(a, b, 1) = b` for a unit `b` in the same half-space, `−b` (the same rotation) otherwise -/
theorem quat_lerp_at_one (sqrt : ℚ → ℚ) (sb : ℚ → Bool) (a b : Q4 ℚ) (h1 : sqrt 1 = 1) (hb : dotSse b b = 1) :
    lerpSse sqrt sb a b 1 = if sb (dotSse a b) then b.map (- ·) else b := by
  rw [lerpSse_eq, interp_at_one]
  split
  · rw [dot_neg_neg, hb, h1, map_div_one]
  · rw [hb, h1, map_div_one]

/-- `lerp(a, a, x) = a` for a unit `a`, every `x` (the dot product of `a` with itself is 1: no flip) -/
theorem quat_lerp_same (sqrt : ℚ → ℚ) (a : Q4 ℚ) (x : ℚ) (h1 : sqrt 1 = 1) (ha : dotSse a a = 1) :
    lerpSse sqrt (fun d => decide (d < 0)) a a x = a := by
  rw [lerpSse_eq, ha]
  have : decide ((1 : ℚ) < 0) = false := by decide
  rw [this, interp_same, ha, h1, map_div_one]

/-- the vector the f64 code normalises -/
def interpScalar (nonneg : Bool) (a b : Q4 ℚ) (s : ℚ) : Q4 ℚ :=
  zip (· + ·) a (zip (· - ·) (b.map (· * (if nonneg then (1 : ℚ) else -1))) a |>.map (· * s))

theorem interpScalar_eq (d : ℚ) (a b : Q4 ℚ) (s : ℚ) :
    interpScalar (decide (0 ≤ d)) a b s = interpSse (decide (d < 0)) a b s := by
  have key (p : Bool) : interpScalar p a b s = interpSse (!p) a b s := by
    -- component by component: `b * 1 = b`, `b * -1 = -b`, `a + x = x + a`
    cases p <;> simp only [interpScalar, interpSse, Q4.zip, Q4.map, Bool.not_true, Bool.not_false, if_true,
      Bool.false_eq_true, if_false, Q4.mk.injEq] <;> refine ⟨?_, ?_, ?_, ?_⟩ <;> ring
  rw [key, ← decide_not]; simp only [not_le]

/-- **`DQuat::lerp` and `Quat::lerp` are the same function in exact arithmetic** (so every theorem above holds for
both): `x * (1 / r) = x / r`, the additions commute, the two tie rules agree on ℚ -/
theorem lerpScalar_eq_lerpSse (sqrt : ℚ → ℚ) (a b : Q4 ℚ) (s : ℚ) :
    lerpScalar sqrt (fun d => decide (0 ≤ d)) 1 a b s = lerpSse sqrt (fun d => decide (d < 0)) a b s := by
  rw [lerpSse_eq]
  have h : lerpScalar sqrt (fun d => decide (0 ≤ d)) 1 a b s =
      (interpScalar (decide (0 ≤ dotScalar a b)) a b s).map
        (· * (1 / sqrt (dotScalar (interpScalar (decide (0 ≤ dotScalar a b)) a b s) (interpScalar (decide (0 ≤ dotScalar a b)) a b s)))) := rfl
  rw [h, ← dotSse_eq_dotScalar, ← dotSse_eq_dotScalar, interpScalar_eq]
  simp only [mul_one_div]

/-! the laws above, restated for the f64 code -/

theorem dquat_lerp_at_zero (sqrt : ℚ → ℚ) (a b : Q4 ℚ) (h1 : sqrt 1 = 1) (ha : dotScalar a a = 1) :
    lerpScalar sqrt (fun d => decide (0 ≤ d)) 1 a b 0 = a :=
  (lerpScalar_eq_lerpSse sqrt a b 0).trans (quat_lerp_at_zero sqrt _ a b h1 ((dotSse_eq_dotScalar a a).trans ha))

theorem dquat_lerp_at_one (sqrt : ℚ → ℚ) (a b : Q4 ℚ) (h1 : sqrt 1 = 1) (hb : dotScalar b b = 1) :
    lerpScalar sqrt (fun d => decide (0 ≤ d)) 1 a b 1 = if dotScalar a b < 0 then b.map (- ·) else b := by
  rw [lerpScalar_eq_lerpSse, quat_lerp_at_one sqrt _ a b h1 ((dotSse_eq_dotScalar b b).trans hb), dotSse_eq_dotScalar]
  simp only [decide_eq_true_eq]

theorem dquat_lerp_same (sqrt : ℚ → ℚ) (a : Q4 ℚ) (x : ℚ) (h1 : sqrt 1 = 1) (ha : dotScalar a a = 1) :
    lerpScalar sqrt (fun d => decide (0 ≤ d)) 1 a a x = a :=
  (lerpScalar_eq_lerpSse sqrt a a x).trans (quat_lerp_same sqrt a x h1 ((dotSse_eq_dotScalar a a).trans ha))

theorem dquat_lerp_unit (sqrt : ℚ → ℚ) (a b : Q4 ℚ) (s : ℚ)
    (hsq : let v := interpSse (decide (dotSse a b < 0)) a b s; sqrt (dotSse v v) * sqrt (dotSse v v) = dotSse v v)
    (hne : let v := interpSse (decide (dotSse a b < 0)) a b s; dotSse v v ≠ 0) :
    dotScalar (lerpScalar sqrt (fun d => decide (0 ≤ d)) 1 a b s) (lerpScalar sqrt (fun d => decide (0 ≤ d)) 1 a b s) = 1 := by
  rw [lerpScalar_eq_lerpSse, ← dotSse_eq_dotScalar]
  exact quat_lerp_unit sqrt (fun d => decide (d < 0)) a b s hsq hne

/-! Non-vacuity: a rational unit quaternion and a second one in the other half-space. -/
example : dotSse (⟨3/5, 4/5, 0, 0⟩ : Q4 ℚ) ⟨3/5, 4/5, 0, 0⟩ = 1 ∧
    dotSse (⟨3/5, 4/5, 0, 0⟩ : Q4 ℚ) ⟨-1, 0, 0, 0⟩ < 0 := by
  simp only [dotSse]; norm_num

/-- `quat_lerp_unit` is not vacuous: a = (1,0,0,0), b = (0,1,0,0) (orthogonal unit quaternions), s = 4/7 gives
v = (3/7, 4/7, 0, 0), v·v = 25/49, whose square root 5/7 is rational -/
example : let sqrt : ℚ → ℚ := fun d => if d = 25/49 then 5/7 else 1
    dotSse (lerpSse sqrt (fun d => decide (d < 0)) ⟨1, 0, 0, 0⟩ ⟨0, 1, 0, 0⟩ (4/7))
           (lerpSse sqrt (fun d => decide (d < 0)) ⟨1, 0, 0, 0⟩ ⟨0, 1, 0, 0⟩ (4/7)) = 1 := by
  intro sqrt
  apply quat_lerp_unit <;> norm_num [interpSse, dotSse, Q4.zip, Q4.map, sqrt]

end C14
