import MinaProofs.Lemmas.RatNum
import MinaModel.Bevy
/-!
# C18 — Bevy Animator: time is conserved and the target lands on the final values

Model: `animateStep` (`bevy/src/animator.rs::animate`, with the repair 3ddfc7e), generic in the number
system. A frame *decides* on the position it sees at its start (`pos = secs a.posNs`) and then adds the
frame's delta: this one-frame lag is granted by the property ("a position at most one frame old",
"no later than one frame after") and is part of every statement below.
Multi-frame statements are by induction over arbitrary lists of frame deltas (`runFrames`); `frameAll_get` and
`frameAll_error` say that several entities in one `App` are stepped independently.
-/
namespace C18

variable {α : Type} [Num α]

def rank : AnimState → Nat
  | .none => 0 | .waiting => 1 | .playing => 2 | .ended => 3

theorem eq_ended_of_rank {s : AnimState} (h : rank .ended ≤ rank s) : s = .ended := by
  revert h; cases s <;> decide

theorem stepState_forward (s : AnimState) (d e : Bool) : rank s ≤ rank (stepState s d e).1 := by
  cases s <;> cases d <;> cases e <;> decide

theorem stepState_changed_iff (s : AnimState) (d e : Bool) : (stepState s d e).2 = true ↔ (stepState s d e).1 ≠ s := by
  cases s <;> cases d <;> cases e <;> decide

theorem stepState_never_none (s : AnimState) (d e : Bool) : (stepState s d e).1 ≠ .none := by
  cases s <;> cases d <;> cases e <;> decide

/-- Waiting at the end of the frame only if the delay was not yet reached -/
theorem stepState_waiting (s : AnimState) (d e : Bool) (h : (stepState s d e).1 = .waiting) : d = false := by
  revert h; cases s <;> cases d <;> cases e <;> decide

/-- Ended at the end of the frame iff it already was, or the total duration was reached -/
theorem stepState_ended_iff (s : AnimState) (d e : Bool) : (stepState s d e).1 = .ended ↔ s = .ended ∨ e = true := by
  cases s <;> cases d <;> cases e <;> decide

/-- a disabled animator changes nothing -/
theorem disabled_noop (a : BAnimator α) (comp : List (Val α)) (δ : Nat) (h : a.enabled = false) :
    animateStep a comp δ = .ok (a, comp, []) := by
  simp [animateStep, h]

theorem no_timeline_step {a : BAnimator α} (comp : List (Val α)) (δ : Nat) (hen : a.enabled = true)
    (htl : a.timeline = none) :
    animateStep a comp δ = .ok ({ a with state := .none }, comp, if a.state ≠ .none then [.none] else []) := by
  obtain ⟨en, p, tl, s⟩ := a
  cases s <;> simp_all [animateStep]

/-- everything one successful frame does, for an enabled animator with a timeline -/
theorem step_spec (a a' : BAnimator α) (comp comp' : List (Val α)) (evs : List AnimState) (δ : Nat) (tl : Merged α)
    (hen : a.enabled = true) (htl : a.timeline = some tl) (h : animateStep a comp δ = .ok (a', comp', evs)) :
    let pos : α := Num.secsOfNanos a.posNs
    let st := stepState a.state (decide (tl.delay ≤ pos)) (geDur pos tl.duration)
    a'.state = st.1 ∧ a'.enabled = true ∧ a'.timeline = some tl ∧
    a'.posNs = (if st.1 = .ended then a.posNs else a.posNs + δ) ∧
    evs = (if st.2 then [st.1] else []) ∧
    (if a.state = .playing ∨ (geDur pos tl.duration = true ∧ a.state ≠ .ended)
      then tl.update comp pos = .ok comp' else comp' = comp) := by
  intro pos st
  unfold animateStep at h
  simp only [hen, htl, Bool.not_true, Bool.false_eq_true, if_false] at h
  -- the two `split`s are the evaluation (panic or not; `hc`: what it returned) and the clock-overflow test, in the order
  -- `animateStep` makes them
  split at h
  next => cases h
  next c hc =>
    split at h
    · cases h
    · cases h
      refine ⟨rfl, rfl, rfl, ?_, rfl, ?_⟩
      · simp only [bne_iff_ne, ne_eq, ite_not]; rfl
      · simp only [Bool.or_eq_true, Bool.and_eq_true, beq_iff_eq, bne_iff_ne] at hc
        split at hc
        next hev => rwa [if_pos hev]
        next hev => rw [if_neg hev]; exact (Except.ok.inj hc).symm

theorem ended_step {a : BAnimator α} (comp : List (Val α)) (δ : Nat) {tl : Merged α}
    (htl : a.timeline = some tl) (he : a.state = .ended) : animateStep a comp δ = .ok (a, comp, []) := by
  obtain ⟨en, p, _, s⟩ := a
  subst htl he
  -- disabled: the system returns at once; enabled and Ended: no evaluation, `stepState` keeps Ended without an event,
  -- the clock stands
  cases en <;> simp [animateStep, stepState]

section frame_theorems
variable (a a' : BAnimator α) (comp comp' : List (Val α)) (evs : List AnimState) (δ : Nat) (tl : Merged α)
  (hen : a.enabled = true) (htl : a.timeline = some tl) (h : animateStep a comp δ = .ok (a', comp', evs))
include hen htl h

/-- **time is conserved**: the position grows by exactly the frame's delta while waiting or playing, and
stops growing once ended -/
theorem position_conserved :
    (a'.state ≠ .ended → a'.posNs = a.posNs + δ) ∧ (a'.state = .ended → a'.posNs = a.posNs) := by
  obtain ⟨h1, _, _, h4, _, _⟩ := step_spec a a' comp comp' evs δ tl hen htl h
  rw [h1, h4]
  exact ⟨fun hne => if_neg hne, fun he => if_pos he⟩

/-- the state only moves forward None → Waiting → Playing → Ended -/
theorem state_forward_only : rank a.state ≤ rank a'.state := by
  obtain ⟨h1, _⟩ := step_spec a a' comp comp' evs δ tl hen htl h
  rw [h1]; exact stepState_forward _ _ _

/-- Waiting only while the position (the frame decided on) is before the delay -/
theorem waiting_implies_before_delay (hw : a'.state = .waiting) :
    ¬ (tl.delay ≤ (Num.secsOfNanos a.posNs : α)) := by
  obtain ⟨h1, _⟩ := step_spec a a' comp comp' evs δ tl hen htl h
  exact of_decide_eq_false (stepState_waiting _ _ _ (h1 ▸ hw))

/-- becomes Ended no later than the frame that sees the position at/after the total duration, and never
before: Ended at the end of the frame iff it already was or `pos ≥ duration` -/
theorem ended_iff : a'.state = .ended ↔ a.state = .ended ∨ geDur (Num.secsOfNanos a.posNs : α) tl.duration = true := by
  obtain ⟨h1, _⟩ := step_spec a a' comp comp' evs δ tl hen htl h
  rw [h1]; exact stepState_ended_iff _ _ _

/-- never Ended for infinitely repeating timelines -/
theorem never_ended_infinite (hinf : tl.duration = none) (hne : a.state ≠ .ended) : a'.state ≠ .ended := by
  intro he
  rcases (ended_iff a a' comp comp' evs δ tl hen htl h).1 he with h1 | h1
  · exact hne h1
  · simp [geDur, hinf] at h1

/-- on the frame that reports Ended for the first time the target was evaluated at a position at/after
the total duration — i.e. it holds the timeline's terminal values (C02) — even if Playing was skipped -/
theorem ended_target_terminal (he : a'.state = .ended) (hne : a.state ≠ .ended) :
    geDur (Num.secsOfNanos a.posNs : α) tl.duration = true ∧ tl.update comp (Num.secsOfNanos a.posNs) = .ok comp' := by
  obtain ⟨_, _, _, _, _, h6⟩ := step_spec a a' comp comp' evs δ tl hen htl h
  have hd := ((ended_iff a a' comp comp' evs δ tl hen htl h).1 he).resolve_left hne
  exact ⟨hd, by rwa [if_pos (Or.inr ⟨hd, hne⟩)] at h6⟩

/-- while Playing the component is the timeline evaluated at the position the frame started with
(one frame old by the time the frame is over) -/
theorem playing_target (hp : a.state = .playing) : tl.update comp (Num.secsOfNanos a.posNs) = .ok comp' := by
  obtain ⟨_, _, _, _, _, h6⟩ := step_spec a a' comp comp' evs δ tl hen htl h
  rwa [if_pos (Or.inl hp)] at h6

/-- once Ended, further frames leave the component alone -/
theorem ended_target_untouched (he : a.state = .ended) : comp' = comp := by
  cases (ended_step comp δ htl he).symm.trans h
  rfl

/-- each state change is announced by exactly one event, carrying the state the animator has at the end
of that frame; no change, no event -/
theorem one_event_per_changing_frame : evs = if a'.state ≠ a.state then [a'.state] else [] := by
  obtain ⟨h1, _, _, _, h5, _⟩ := step_spec a a' comp comp' evs δ tl hen htl h
  rw [h5, h1]
  exact if_congr (stepState_changed_iff _ _ _) rfl rfl

end frame_theorems

/-- run the `animate` system over a list of frame deltas (no reset / re-targeting in between);
returns the final animator, component and all events in order -/
def runFrames (a : BAnimator α) (comp : List (Val α)) : List Nat → Except Panic (BAnimator α × List (Val α) × List AnimState)
  | [] => .ok (a, comp, [])
  | δ :: ds =>
    match animateStep a comp δ with
    | .error p => .error p
    | .ok (a1, c1, e1) =>
      match runFrames a1 c1 ds with
      | .error p => .error p
      | .ok (a2, c2, e2) => .ok (a2, c2, e1 ++ e2)

theorem runFrames_cons_ok {a a' : BAnimator α} {comp comp' : List (Val α)} {evs : List AnimState} {δ : Nat}
    {ds : List Nat} (h : runFrames a comp (δ :: ds) = .ok (a', comp', evs)) :
    ∃ a1 c1 e1 e2, animateStep a comp δ = .ok (a1, c1, e1) ∧ runFrames a1 c1 ds = .ok (a', comp', e2) ∧
      evs = e1 ++ e2 := by
  simp only [runFrames] at h
  split at h
  next => cases h
  next a1 c1 e1 h1 =>
    split at h
    next => cases h
    next _ _ e2 h2 => cases h; exact ⟨a1, c1, e1, e2, h1, h2, rfl⟩

/-- exactly one `Ended` event per run: over any schedule, an enabled animator with a timeline announces
`Ended` at most once, and exactly once iff it goes from not-ended to ended -/
theorem exactly_one_ended_per_run (a a' : BAnimator α) (comp comp' : List (Val α)) (evs : List AnimState) (ds : List Nat)
    (tl : Merged α) (hen : a.enabled = true) (htl : a.timeline = some tl)
    (h : runFrames a comp ds = .ok (a', comp', evs)) :
    (evs.filter (· == .ended)).length = (if a.state ≠ .ended ∧ a'.state = .ended then 1 else 0) ∧
    rank a.state ≤ rank a'.state ∧ a'.enabled = true ∧ a'.timeline = some tl := by
  induction ds generalizing a comp evs with
  | nil =>
    cases h
    exact ⟨by simp, le_rfl, hen, htl⟩
  | cons δ ds ih =>
    obtain ⟨a1, c1, e1, e2, h1, h2, rfl⟩ := runFrames_cons_ok h
    obtain ⟨-, hen1, htl1, -⟩ := step_spec a a1 comp c1 e1 δ tl hen htl h1
    obtain ⟨ih1, ih2, ih3, ih4⟩ := ih a1 c1 e2 hen1 htl1 h2
    have hfw := state_forward_only a a1 comp c1 e1 δ tl hen htl h1
    refine ⟨?_, le_trans hfw ih2, ih3, ih4⟩
    rw [List.filter_append, List.length_append, ih1, one_event_per_changing_frame a a1 comp c1 e1 δ tl hen htl h1]
    -- Ended is absorbing, so the run starts in it, or crosses into it in this frame, in a later one, or not at all
    have h01 : a.state = .ended → a1.state = .ended := fun e => eq_ended_of_rank (e ▸ hfw)
    have h12 : a1.state = .ended → a'.state = .ended := fun e => eq_ended_of_rank (e ▸ ih2)
    by_cases e0 : a.state = .ended
    · simp [e0, h01 e0]
    · by_cases e1 : a1.state = .ended
      · simp [e0, e1, h12 e1, Ne.symm e0]
      · by_cases hch : a1.state = a.state <;> simp [e0, e1, hch]

theorem ended_run {a : BAnimator α} (comp : List (Val α)) (ds : List Nat) {tl : Merged α}
    (htl : a.timeline = some tl) (he : a.state = .ended) : runFrames a comp ds = .ok (a, comp, []) := by
  induction ds with
  | nil => rfl
  | cons δ ds ih => simp only [runFrames, ended_step comp δ htl he, ih, List.append_nil]

/-- a reached `Ended` state is kept, and the position never moves again, over any further schedule -/
theorem ended_is_final (a a' : BAnimator α) (comp comp' : List (Val α)) (evs : List AnimState) (ds : List Nat)
    (tl : Merged α) (hen : a.enabled = true) (htl : a.timeline = some tl) (he : a.state = .ended)
    (h : runFrames a comp ds = .ok (a', comp', evs)) :
    a'.state = .ended ∧ a'.posNs = a.posNs ∧ comp' = comp ∧ evs = [] := by
  cases (ended_run comp ds htl he).symm.trans h
  exact ⟨he, rfl, rfl, rfl⟩

/-- while it never ends (e.g. an infinitely repeating timeline), the position is the sum of all deltas -/
theorem position_is_sum_of_deltas (a a' : BAnimator α) (comp comp' : List (Val α)) (evs : List AnimState) (ds : List Nat)
    (tl : Merged α) (hen : a.enabled = true) (htl : a.timeline = some tl) (hne : a'.state ≠ .ended)
    (h : runFrames a comp ds = .ok (a', comp', evs)) : a'.posNs = a.posNs + ds.sum := by
  induction ds generalizing a comp evs with
  | nil => cases h; rfl
  | cons δ ds ih =>
    obtain ⟨a1, c1, e1, e2, h1, h2, rfl⟩ := runFrames_cons_ok h
    obtain ⟨-, hen1, htl1, -⟩ := step_spec a a1 comp c1 e1 δ tl hen htl h1
    have hne1 : a1.state ≠ .ended := fun he1 => hne (ended_is_final a1 a' c1 comp' e2 ds tl hen1 htl1 he1 h2).1
    rw [ih a1 c1 e2 hen1 htl1 h2, (position_conserved a a1 comp c1 e1 δ tl hen htl h1).1 hne1, List.sum_cons,
      Nat.add_assoc]

/-- **entities do not interfere**: in an App with any number of animated entities, a frame does to the k-th entity
exactly what it would do if that entity were alone (same delta, same system order) -/
theorem frameAll_get (ws : List (World α)) (δ : Nat) (cf qf : Bool)
    (rs : List (World α × List AnimState × List AnimState)) (h : frameAll ws δ cf qf = .ok rs) :
    rs.length = ws.length ∧ ∀ k (hk : k < ws.length) (hk' : k < rs.length), frame ws[k] δ cf qf = .ok rs[k] := by
  fun_induction frameAll ws δ cf qf generalizing rs with
  | case1 => cases h; exact ⟨rfl, fun k hk => absurd hk (Nat.not_lt_zero k)⟩
  | case2 | case3 => cases h
  | case4 w rest r hw rs' hr ih =>
    cases h
    obtain ⟨hl, hg⟩ := ih rs' hr
    refine ⟨congrArg Nat.succ hl, fun k hk hk' => ?_⟩
    cases k with
    | zero => exact hw
    | succ k => exact hg k (Nat.lt_of_succ_lt_succ hk) (Nat.lt_of_succ_lt_succ hk')

/-- a frame of the App fails (a panic of the implementation) only if the frame of one of its entities does -/
theorem frameAll_error (ws : List (World α)) (δ : Nat) (cf qf : Bool) (p : Panic)
    (h : frameAll ws δ cf qf = .error p) : ∃ w ∈ ws, frame w δ cf qf = .error p := by
  fun_induction frameAll ws δ cf qf with
  | case1 | case4 => cases h
  | case2 w rest p hw => cases h; exact ⟨w, List.mem_cons_self, hw⟩
  | case3 w rest r hw p hr ih =>
    cases h
    obtain ⟨w', hm, hf⟩ := ih hr
    exact ⟨w', List.mem_cons_of_mem _ hm, hf⟩

end C18
