import MinaProofs.Props.C13Rounded
import MinaProofs.Props.C14Rounded
import MinaModel.SubTimeline
/-!
# C02 under every faithful rounding: keyframe values are reached *exactly*

`interpolate` (the model of `interpolate_value`) at the position of the segment's starting keyframe returns that
keyframe's value, and at the position of its ending keyframe the ending value — exactly, for float and integer
properties, for every built-in easing, under any faithful rounding.  The chain is: `(t − t₀)/d` rounds to exactly 0
(resp. `d/d` to exactly 1), the easing fixes 0 and 1 exactly (C13Rounded), and `a·(1−x)+b·x` returns the endpoint
exactly (C14Rounded).  Together with the lookup theorem (`C02.keyframe_value_reached`, which says *which* segment is
used) this is the "exactly for integers, to within a few ulps for floats" clause with zero ulps.
-/

namespace C02
variable {ρ : ℚ → ℚ}

/-- a value whose float (or integer magnitude) is representable -/
def ValRep : Val (Rd ρ) → Prop
  | .num x => x.Rep
  | .int k n => ρ (n.natAbs : ℚ) = (n.natAbs : ℚ) ∧ k.lo ≤ n ∧ n ≤ k.hi

/-- both values are floats, or integers of the same primitive kind (what a typed struct field guarantees) -/
def SameKind : Val (Rd ρ) → Val (Rd ρ) → Prop
  | .num _, .num _ => True
  | .int k _, .int k' _ => k = k'
  | _, _ => False

theorem val_lerp_zero (F : Faithful ρ) (a b : Val (Rd ρ)) (x : Rd ρ) (hx : x.val = 0) (ha : ValRep a)
    (hk : SameKind a b) : a.lerp b x = .ok a := by
  -- for values of different kinds `hk` is `False`
  cases a <;> cases b <;> simp only [SameKind] at hk
  · simp only [Val.lerp, C14.lerp_at_zero_any_rounding F _ _ _ ha hx]
  · subst hk
    simp only [Val.lerp, beq_self_eq_true, if_true, C14.lerpInt_at_zero_any_rounding F _ _ _ _ hx ha.1 ha.2]
    rfl

theorem val_lerp_one (F : Faithful ρ) (a b : Val (Rd ρ)) (x : Rd ρ) (hx : x.val = 1) (hb : ValRep b)
    (hk : SameKind a b) : a.lerp b x = .ok b := by
  cases a <;> cases b <;> simp only [SameKind] at hk
  · simp only [Val.lerp, C14.lerp_at_one_any_rounding F _ _ _ hb hx]
  · subst hk
    simp only [Val.lerp, beq_self_eq_true, if_true, C14.lerpInt_at_one_any_rounding F _ _ _ _ hx hb.1 hb.2]
    rfl

/-- at the starting keyframe's position the segment yields the starting value exactly -/
theorem interpolate_at_start_any_rounding (F : Faithful ρ) (a b : Frame (Rd ρ)) (t : Rd ρ) (ht : t.val = a.time.val)
    (id : Gen.EasingId) (he : a.easing = .builtin id) (ha : ValRep a.value) (hk : SameKind a.value b.value) :
    interpolate a b t = .ok a.value := by
  unfold interpolate
  dsimp only
  split
  · rfl
  · apply val_lerp_zero F _ _ _ _ ha hk
    rw [he]
    apply C13.ease_zero_any_rounding F
    simp [ht, F.zero]

/-- at the ending keyframe's position the segment yields the ending value exactly -/
theorem interpolate_at_end_any_rounding (F : Faithful ρ) (a b : Frame (Rd ρ)) (t : Rd ρ) (ht : t.val = b.time.val)
    (id : Gen.EasingId) (he : a.easing = .builtin id) (hb : ValRep b.value) (hk : SameKind a.value b.value)
    (hd : ρ (b.time.val - a.time.val) ≠ 0) :
    interpolate a b t = .ok b.value := by
  unfold interpolate
  dsimp only
  split
  next h =>
    rw [Rd.beq_iff, Rd.sub_val, Rd.lit_val, Nat.cast_zero, F.zero] at h
    exact absurd h hd
  next =>
    apply val_lerp_one F _ _ _ _ hb hk
    rw [he]
    apply C13.ease_one_any_rounding F
    simp [ht, div_self hd, F.one]

end C02
