import MinaProofs.Props.C14Rounded
import MinaProofs.Lemmas.Rne
/-! # C14 for binary32's own rounding (`rne24`, proved faithful in `Lemmas/Rne.lean`) -/
namespace C14

/-- in binary32 arithmetic `lerp(a,b,0) = a` and `lerp(a,b,1) = b` exactly, for representable endpoints -/
theorem lerp_endpoints_binary32 (a b : Rd rne24) (ha : a.Rep) (hb : b.Rep) :
    lerp a b (lit 0) = a ∧ lerp a b (lit 1) = b :=
  ⟨lerp_at_zero_any_rounding Faithful.rne24 a b _ ha Faithful.rne24.lit_zero,
   lerp_at_one_any_rounding Faithful.rne24 a b _ hb Faithful.rne24.lit_one⟩

/-- integers: exact endpoints without panic, for every integer kind, when the endpoint's magnitude is representable -/
theorem lerpInt_endpoints_binary32 (k : Gen.IntKind) (a b : Int)
    (ha : rne24 (a.natAbs : ℚ) = (a.natAbs : ℚ)) (hb : rne24 (b.natAbs : ℚ) = (b.natAbs : ℚ))
    (hra : k.lo ≤ a ∧ a ≤ k.hi) (hrb : k.lo ≤ b ∧ b ≤ k.hi) :
    lerpInt k a b (lit 0 : Rd rne24) = .ok a ∧ lerpInt k a b (lit 1 : Rd rne24) = .ok b :=
  ⟨lerpInt_at_zero_any_rounding Faithful.rne24 k a b _ Faithful.rne24.lit_zero ha hra,
   lerpInt_at_one_any_rounding Faithful.rne24 k a b _ Faithful.rne24.lit_one hb hrb⟩

/-- every integer of magnitude at most 2^24 is representable in binary32 … -/
theorem rne24_natCast_of_le (n : ℕ) (hn : n ≤ 2 ^ 24) : rne24 (n : ℚ) = (n : ℚ) := by
  rcases Nat.eq_zero_or_pos n with rfl | hpos
  · simpa using rne24_zero
  · exact rne24_of_le (Nat.cast_pos.2 hpos) (z := 0) (n := n) (by simp)
      (by rw [zpow_zero, mul_one]; exact_mod_cast hn)

/-- **closed form**: for every integer kind and all endpoints of magnitude at most 2^24 within the kind's range, binary32
interpolation returns the endpoints exactly at x = 0 and x = 1 and does not panic — no hypothesis about rounding left -/
theorem lerpInt_endpoints_le_2pow24 (k : Gen.IntKind) (a b : Int) (ha : a.natAbs ≤ 2 ^ 24) (hb : b.natAbs ≤ 2 ^ 24)
    (hra : k.lo ≤ a ∧ a ≤ k.hi) (hrb : k.lo ≤ b ∧ b ≤ k.hi) :
    lerpInt k a b (lit 0 : Rd rne24) = .ok a ∧ lerpInt k a b (lit 1 : Rd rne24) = .ok b :=
  lerpInt_endpoints_binary32 k a b (rne24_natCast_of_le _ ha) (rne24_natCast_of_le _ hb) hra hrb

/-- … hence the full range of every 8- and 16-bit type, and i32/u32/… up to ±2^24, interpolate exactly at the ends -/
example : lerpInt Gen.IntKind.i8 (-128) 127 (lit 1 : Rd rne24) = .ok 127 :=
  (lerpInt_endpoints_le_2pow24 .i8 (-128) 127 (by decide) (by decide) (by decide) (by decide)).2

end C14
