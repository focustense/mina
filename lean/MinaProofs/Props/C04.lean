import MinaProofs.Lemmas.AnimInv
import MinaProofs.Props.C09
/-!
# C04 — A state change never makes the animated values jump

Model: `MinaModel/Animator.lean` (`set_state` with the repaired pause bookkeeping, fix ba53243).
Generic in the number system. The one arithmetic fact needed is the *blend law* of each state's
timeline (`BlendOK P`, for the values `P` the animator can hold): started from `v` and evaluated at time 0
it reproduces `v`. That law is what "built-in easings, distinct keyframe positions per property, values
representable in f32" buy: at ℚ it follows from C10.`start_value_until_delay` for every property with
keyframes, and slots without keyframes are untouched (C08). It is preserved by `start_with`.

`Good P a` = the animator invariant (`AnimInv`) + the values satisfy `P` + every timeline is `TlOK P`
(blend law and closure of `P` under evaluation, after any sequence of `start_with`).
-/
namespace C04

variable {α : Type} [Num α]
open Animator

/-- setting the state the animator is already in changes nothing at all -/
theorem set_same_state_noop (a : Animator α) : a.setState a.state = .ok a := by
  simp [Animator.setState]

/-- a timeline is *well-behaved for values satisfying `P`* if, after any sequence of `start_with` calls
with such values, it obeys the blend law and evaluating it keeps values in `P` -/
def TlOK (P : List (Val α) → Prop) (m : Merged α) : Prop :=
  ∀ ws : List (List (Val α)), (∀ w ∈ ws, P w) →
    BlendOK P (ws.foldl (fun acc w => acc.startWith w) m) ∧
    (∀ v t r, P v → (ws.foldl (fun acc w => acc.startWith w) m).update v t = .ok r → P r)

theorem TlOK.blend {P : List (Val α) → Prop} {m : Merged α} (h : TlOK P m) : BlendOK P m :=
  (h [] (fun _ hw => nomatch hw)).1

theorem TlOK.closed {P : List (Val α) → Prop} {m : Merged α} (h : TlOK P m) {v r : List (Val α)} {t : α}
    (hv : P v) (hr : m.update v t = .ok r) : P r :=
  (h [] (fun _ hw => nomatch hw)).2 v t r hv hr

theorem tlOK_startWith (P : List (Val α) → Prop) {m : Merged α} {w : List (Val α)} (hw : P w) (h : TlOK P m) :
    TlOK P (m.startWith w) :=
  fun ws hws => h (w :: ws) (List.forall_mem_cons.2 ⟨hw, hws⟩)

/-- how `TlOK` is proved: exhibit a class `Q` of timelines that `start_with` of `P`-values keeps, whose members obey
the blend law and keep `P` under evaluation (`slotMerged_tlOK` is the instance for builder-built timelines) -/
theorem tlOK_of_closed {P : List (Val α) → Prop} (Q : Merged α → Prop)
    (hsw : ∀ m w, Q m → P w → Q (m.startWith w)) (hb : ∀ m, Q m → BlendOK P m)
    (hu : ∀ m v t r, Q m → P v → m.update v t = .ok r → P r) {m : Merged α} (hm : Q m) : TlOK P m := by
  intro ws hws
  induction ws generalizing m with
  | nil => exact ⟨hb m hm, fun v t r => hu m v t r hm⟩
  | cons w ws ih =>
    exact ih (hsw m w hm (hws w List.mem_cons_self)) fun x hx => hws x (List.mem_cons_of_mem _ hx)

structure Good (P : List (Val α) → Prop) (a : Animator α) : Prop where
  inv : AnimInv a
  pv : P a.values
  ok : ∀ s tl, a.timeline? s = some tl → TlOK P tl

theorem merged_startWith_last_wins (m : Merged α) (v w : List (Val α)) (hl : v.length = w.length) :
    (m.startWith v).startWith w = m.startWith w := by
  simp only [Merged.startWith, List.map_map]
  congr 1
  apply List.map_congr_left
  intro tl _
  exact C09.startWith_last_wins tl v w hl

theorem merged_update_length (m : Merged α) (tgt r : List (Val α)) (time : α) (h : m.update tgt time = .ok r) :
    r.length = tgt.length := by
  obtain ⟨W, -, rfl⟩ := C12.merged_update_ok_iff.1 h
  exact applyWrites_length W tgt

/-- the freshly built animator is `Good` -/
theorem good_initial (P : List (Val α) → Prop) (timelines : List (Option (Merged α))) (s0 : Nat) (v0 : List (Val α))
    (hP : P v0) (hok : ∀ m, some m ∈ timelines → TlOK P m) : Good P (Animator.new timelines s0 v0) := by
  have hall : All (TlOK P) ⟨timelines, s0, v0, none, 0⟩ := all_iff_mem.2 hok
  unfold Animator.new
  refine ⟨⟨fun tl htl => ?_, fun ps pos hp => ?_⟩, ?_, hall.blendNext (fun _ => tlOK_startWith P hP) s0⟩
  · -- current: blended from `v0`, clock 0: the blend law
    rw [blendNext_state, blendNext_timeline?, if_pos rfl] at htl
    obtain ⟨tl0, h0, rfl⟩ := Option.map_eq_some_iff.1 htl
    rw [blendNext_values, blendNext_stateNs]
    exact (hall s0 tl0 h0).blend v0 hP
  · -- paused: none remembered
    rw [blendNext_paused] at hp; cases hp
  · rw [blendNext_values]; exact hP

/-- **No jump.** `set_state` leaves `current_values` exactly as they were — in every `Good` animator,
i.e. after any history (see `good_run`) — and the animator stays `Good`. -/
theorem set_state_no_jump (P : List (Val α) → Prop) (a a' : Animator α) (s : Nat) (hg : Good P a) (h : a.setState s = .ok a') :
    a'.values = a.values ∧ Good P a' := by
  rcases setState_eq_ok h with ⟨-, rfl⟩ | ⟨hs, h⟩
  · exact ⟨rfl, hg⟩
  · have hinv := AnimInv.switchTo hg.inv (fun tl htl => (hg.ok s tl htl).blend a.values hg.pv) hs
    -- the record switched to is at rest, so it is the result
    cases (updateValues_eq_self.2 hinv.current).symm.trans h
    exact ⟨switchTo_values a s, hinv, (switchTo_values a s).symm ▸ hg.pv,
      All.switchTo hg.ok (fun _ => tlOK_startWith P hg.pv) s⟩

theorem good_advanceNs (P : List (Val α) → Prop) (a a' : Animator α) (ns : Nat) (hg : Good P a) (h : a.advanceNs ns = .ok a') :
    Good P a' := by
  refine ⟨AnimInv.advanceNs hg.inv h, ?_, All.advanceNs hg.ok h⟩
  cases htl : a.timeline? a.state with
  | none => rw [advanceNs_of_none h htl]; exact hg.pv
  | some tl => exact (hg.ok _ tl htl).closed hg.pv (advanceNs_values h htl)

theorem good_step (P : List (Val α) → Prop) (a a' : Animator α) (op : AnimOp α) (hg : Good P a) (h : a.step op = .ok a') : Good P a' := by
  rcases step_eq_ok h with ⟨ns, h⟩ | ⟨s, h⟩
  · exact good_advanceNs P a a' ns hg h
  · exact (set_state_no_jump P a a' s hg h).2

/-- every animator reachable by any history of `advance`/`set_state` is `Good` -/
theorem good_run (P : List (Val α) → Prop) (a a' : Animator α) (ops : List (AnimOp α)) (hg : Good P a) (h : a.run ops = .ok a') :
    Good P a' :=
  run_induction (good_step P) hg h

theorem reachable_good (P : List (Val α) → Prop) {timelines : List (Option (Merged α))} {s0 : Nat} {v0 : List (Val α)}
    (hP : P v0) (hok : ∀ m, some m ∈ timelines → TlOK P m) {ops : List (AnimOp α)} {a : Animator α}
    (hrun : (Animator.new timelines s0 v0).run ops = .ok a) : Good P a :=
  good_run P _ a ops (good_initial P timelines s0 v0 hP hok) hrun

/-- **The property.** Whatever sequence of advances and state changes came before, calling `set_state`
never changes `current_values` at the moment of the call. -/
theorem no_jump_after_any_history (P : List (Val α) → Prop) (timelines : List (Option (Merged α))) (s0 : Nat) (v0 : List (Val α))
    (hP : P v0) (hok : ∀ m, some m ∈ timelines → TlOK P m)
    (ops : List (AnimOp α)) (a a' : Animator α) (s : Nat)
    (hrun : (Animator.new timelines s0 v0).run ops = .ok a) (hset : a.setState s = .ok a') :
    a'.values = a.values :=
  (set_state_no_jump P a a' s (reachable_good P hP hok hrun) hset).1

/-- for `P` = "has `n` slots": a timeline that obeys the blend law is `TlOK` (the blend law survives
`start_with` because the latest `start_with` replaces earlier ones; `update` keeps the number of slots) -/
theorem tlOK_of_blend_law (n : Nat) (m : Merged α)
    (h : BlendOK (fun v => v.length = n) m) : TlOK (fun v => v.length = n) m :=
  tlOK_of_closed (BlendOK (fun v => v.length = n))
    (fun m w hm hw v hv => by rw [merged_startWith_last_wins m w v (hw.trans hv.symm)]; exact hm v hv)
    (fun _ hm => hm) (fun m v t r _ hv hr => (merged_update_length m v r t hr).trans hv) h

end C04
