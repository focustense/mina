import MinaProofs.Lemmas.Prepare
import MinaProofs.Props.C03
import MinaProofs.Lemmas.AtFrame
/-!
# C02 — Keyframe, start and end values are reached exactly and then held

Model at ℚ. Ingredients: the lookup theorem (`valueAt_at_frame`), C13 (built-in easings fix 0 and 1),
C14 (lerp is exact at 0 and 1, integers included), C03 (where the position is at which time).
-/
namespace C02
open Spec

/-- **A keyframe's value is reached exactly.** When the position coincides with a frame `F[j]` of the
property (a keyframe defining it, or the synthetic 0 % / 100 % frame) and no other frame sits at that
position, the produced value *is* that frame's value (the substituted start value for frame 0 while the
override is enabled) — for every admissible search result, for floats and for integers in range. -/
theorem keyframe_value_reached (ks : List (PKeyframe ℚ)) (hok : KfOK ks) (d : Val ℚ) (e0 : Easing)
    (hdata : cssReals ks e0 ≠ []) (ov : Option (Val ℚ)) (ovr : Bool) (s : ℚ) (hs0 : 0 ≤ s) (hs1 : s ≤ 1)
    (idx : Nat) (hidx : HintOK ks s idx)
    (S : Val ℚ → Prop) (hS : Lerpable S)
    (hSf : ∀ f ∈ (builtSub ks d e0 ov).frames, S f.value ∧ FixesEnds f.easing) (hSo : ∀ v, ov = some v → S v)
    (j : Nat) (fj : Frame ℚ) (hj : (builtSub ks d e0 ov).frames[j]? = some fj) (hsj : fj.time = s)
    (huniq : ∀ i f, (builtSub ks d e0 ov).frames[i]? = some f → f.time = s → i = j) :
    (builtSub ks d e0 ov).valueAt s idx ovr = some (.ok (gFrame (builtSub ks d e0 ov) j ovr fj).value) := by
  obtain ⟨j', fj', hj', hsj', hv⟩ := valueAt_at_frame hok hdata ovr hs0 hs1 hidx hS hSf hSo hj hsj
  obtain rfl := huniq j' fj' hj' hsj'
  rw [hj] at hj'; cases hj'
  exact hv

/-- the hypotheses on values and easings are met by floats, by integers of one kind within its range,
and by every built-in easing -/
theorem hypotheses_satisfiable :
    Lerpable (fun v => ∃ x, v = .num x) ∧
    (∀ k : Gen.IntKind, Lerpable (fun v => ∃ n, v = .int k n ∧ k.lo ≤ n ∧ n ≤ k.hi)) ∧
    (∀ id : Gen.EasingId, FixesEnds (.builtin id)) :=
  ⟨lerpable_num, lerpable_int, builtin_fixesEnds⟩

/-- at any time up to the delay the position is 0 % (and the start override is enabled) -/
theorem zero_percent_until_delay (ts : TimeScale ℚ) (hd : 0 < ts.duration) (t : ℚ) (ht : t ≤ ts.delay) :
    posOvr (ts.position t) = (0, true) := by
  rcases lt_or_eq_of_le ht with hlt | rfl
  · rw [position_eq, if_pos hlt]; rfl
  · have h := C03.first_cycle ts le_rfl hd
    rw [add_zero] at h
    rw [h, cyclePos_eq, zero_div, tri_zero]
    simp [posOvr]

/-- at the end of every forward pass the 100 % position is shown (0 % at the end of a reverse pass): the
position never wraps to 0 % before the end value has been shown -/
theorem end_of_each_pass (ts : TimeScale ℚ) (hd : 0 < ts.duration) (hr : ts.repeat_ ≠ .none) (k : Nat) (hk : 1 ≤ k)
    (hne : (ts.position (ts.delay + ts.duration * k)).isEnded = false) :
    (ts.position (ts.delay + ts.duration * k)).value = if ts.reverse then 0 else 1 :=
  C03.hold_at_cycle_end ts hd hr k hk hne

/-- after the total duration the position is terminal — 100 %, or the original 0 % for reversing
timelines — the override is off, and nothing depends on the time any more -/
theorem after_end_constant (tl : Timeline ℚ) (hne : tl.boundary ≠ []) (T : ℚ) (hT : tl.ts.totalDuration = some T)
    (t1 t2 : ℚ) (h1 : T < t1) (h2 : T < t2) (hdelay : tl.ts.delay ≤ T) (tgt : List (Val ℚ)) :
    tl.update tgt t1 = tl.update tgt t2 ∧
    prepareFrame tl.ts tl.boundary t1 =
      some ((if tl.ts.reverse then 0 else 1), searchIdx tl.boundary (if tl.ts.reverse then 0 else 1), false) := by
  have hend : ∀ t, T < t → posOvr (tl.ts.position t) = ((if tl.ts.reverse then 0 else 1), false) := by
    intro t ht
    rw [position_eq, if_neg (by linarith), if_pos ⟨T, hT, ht⟩, positionEnded_eq]; rfl
  constructor
  · unfold Timeline.update
    rw [prepareFrame_eq _ hne, prepareFrame_eq _ hne, hend t1 h1, hend t2 h2]
  · rw [prepareFrame_eq _ hne, hend t1 h1]

/-- exactly at the total duration the position already equals the terminal one (the code is still
`Active` there) -/
theorem at_total_position (ts : TimeScale ℚ) (hd : 0 < ts.duration) (T : ℚ) (hT : ts.totalDuration = some T) :
    (ts.position T).value = if ts.reverse then 0 else 1 := by
  have hne : (ts.position T).isEnded = false := by
    rw [Bool.eq_false_iff, ne_eq, C03.ended_iff_past_total]
    rintro ⟨-, T', hT', hlt⟩
    rw [hT] at hT'; cases hT'; exact lt_irrefl _ hlt
  rw [C03.running_value ts (by linarith [le_totalDuration hd hT]) hne, ← tri_one]
  -- the cycle time at the total duration is a whole cycle
  congr 1
  rw [div_eq_one_iff_eq hd.ne']
  obtain ⟨-, rfl⟩ := mem_totalDuration.1 hT
  rw [add_sub_cancel_left]
  exact loopCycle_mul hd (Nat.le_add_left 1 _)

end C02
