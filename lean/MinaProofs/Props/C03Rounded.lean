import MinaProofs.Lemmas.Rounded
import MinaProofs.Lemmas.TimeScale
/-!
# C03 under every faithful rounding: the position never leaves [0,1]

`TimeScale.position` — the very term that runs at `Float32` against `TimeScale::get_position` — instantiated at
rounded arithmetic.  For every faithful rounding, every repeat / reverse shape, every delay and every time the
normalised position is in `[0,1]`: `time / duration ≤ 1` survives rounding because rounding is monotone and fixes 1,
the float remainder is below the (representable) divisor, and the reversing fold `(1 − r)·2` with `r > ½` stays below
1 because rounding fixes ½.  Hypotheses: cycle duration positive and representable (it is a stored `f32`).
-/

namespace C03
variable {ρ : ℚ → ℚ}

/-- the normalised position a `Pos` stands for -/
def valR : Pos (Rd ρ) → ℚ
  | .notStarted => 0
  | .active t _ _ => t.val
  | .ended t => t.val

theorem cyclePos_in_unit (F : Faithful ρ) (ts : TimeScale (Rd ρ)) (hd : 0 < ts.duration.val) (c : Rd ρ) (b : Bool)
    (h0 : 0 ≤ c.val) (h1 : c.val ≤ ts.duration.val) :
    0 ≤ valR (ts.cyclePos c b) ∧ valR (ts.cyclePos c b) ≤ 1 := by
  have r0 : 0 ≤ ρ (c.val / ts.duration.val) := F.nonneg (div_nonneg h0 hd.le)
  have r1 : ρ (c.val / ts.duration.val) ≤ 1 := F.le_one ((div_le_one hd).2 h1)
  have hhalf : ((lit 1 : Rd ρ) / lit 2).val = 1 / 2 := by
    rw [Rd.div_val, F.lit_one, Rd.lit_val, Nat.cast_ofNat, F.two, F.half]
  fun_cases TimeScale.cyclePos ts c b with
  | case1 ratio _ hlt =>
    rw [Rd.lt_iff, hhalf] at hlt
    simpa [valR, F.one, F.two] using F.fold_hi_unit hlt r1
  | case2 ratio _ hlt =>
    rw [Rd.lt_iff, hhalf] at hlt
    simpa [valR, F.two] using F.fold_lo_unit (r := ratio.val) r0 (not_lt.1 hlt)
  | case3 => exact ⟨r0, r1⟩

theorem loopPos_in_unit (F : Faithful ρ) (ts : TimeScale (Rd ρ)) (hd : 0 < ts.duration.val) (hdr : ts.duration.Rep)
    (c : Rd ρ) (h0 : 0 ≤ c.val) :
    0 ≤ valR (ts.loopPos c) ∧ valR (ts.loopPos c) ≤ 1 := by
  have fb := fmod_bounds h0 hd
  fun_cases TimeScale.loopPos ts c
  · exact cyclePos_in_unit F ts hd _ _ hd.le le_rfl
  · apply cyclePos_in_unit F ts hd
    · rw [Rd.fmod_val]; exact F.nonneg fb.1
    · rw [Rd.fmod_val]; exact F.le_of_fixed hdr fb.2.le

theorem ended_in_unit (F : Faithful ρ) (ts : TimeScale (Rd ρ)) :
    0 ≤ valR ts.positionEnded ∧ valR ts.positionEnded ≤ 1 := by
  unfold TimeScale.positionEnded
  split <;> simp [valR, F.zero, F.one]

/-- **the position lies in [0,1] for every faithful rounding** — every repeat/reverse shape, every delay, every time -/
theorem pos_in_unit_any_rounding (F : Faithful ρ) (ts : TimeScale (Rd ρ)) (hd : 0 < ts.duration.val)
    (hdr : ts.duration.Rep) (t : Rd ρ) :
    0 ≤ valR (ts.position t) ∧ valR (ts.position t) ≤ 1 := by
  have h0 : ¬ t - ts.delay < lit 0 → 0 ≤ (t - ts.delay).val := fun h => by
    rw [Rd.lt_iff, F.lit_zero] at h; exact not_lt.1 h
  exact ts.position_cases t (P := fun p => 0 ≤ valR p ∧ valR p ≤ 1) (fun _ => ⟨le_rfl, zero_le_one⟩)
    (fun _ => ended_in_unit F ts) (fun h h2 => cyclePos_in_unit F ts hd _ _ (h0 h) (not_lt.1 h2))
    (fun h => loopPos_in_unit F ts hd hdr _ (h0 h))

/-- non-vacuity: a delayed, reversing, repeat-2 time scale with an inexact-looking duration, in exact arithmetic -/
example : let ts : TimeScale (Rd (fun x => x)) := ⟨⟨1/3⟩, ⟨7/10⟩, .times 2, true⟩
    0 ≤ valR (ts.position ⟨5/4⟩) ∧ valR (ts.position ⟨5/4⟩) ≤ 1 :=
  pos_in_unit_any_rounding Faithful.id _ (by norm_num) rfl _

/-- non-vacuity with a *lossy* rounding (nearest multiple of 2⁻¹⁰): the time scale's stored duration is a grid point -/
example : let ts : TimeScale (Rd (fixedRound 10)) := ⟨⟨1/3⟩, ⟨3/4⟩, .infinite, true⟩
    0 ≤ valR (ts.position ⟨77/3⟩) ∧ valR (ts.position ⟨77/3⟩) ≤ 1 :=
  pos_in_unit_any_rounding (Faithful.fixed 10 (by norm_num)) _ (by norm_num)
    (by show fixedRound 10 (3/4) = 3/4
        have := fixedRound_of_int 10 768
        norm_num at this ⊢; exact this) _

end C03
