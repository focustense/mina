import MinaProofs.Lemmas.TimeScale
import MinaModel.Timeline
/-!
# C03 — Delay/repeat/reverse map time to a bounded, periodic, mirrored position

Model: `MinaModel/TimeScale.lean` (`TimeScale.position` = `get_position`, `totalDuration` =
`get_duration`) at `α = ℚ`. `Pos.value` is the normalised position `prepare_frame` feeds to the
keyframe search (0 while not started). Hypothesis throughout: cycle duration > 0, as in the property.
No bound on the repeat count or on the time.
-/
namespace C03

variable (ts : TimeScale ℚ)

/-- 0 % while time < delay: `NotStarted` exactly when `t < delay` -/
theorem not_started_iff (t : ℚ) : (ts.position t).isNotStarted = true ↔ t < ts.delay := by
  rw [position_eq]
  split_ifs with h1
  · exact iff_of_true rfl h1
  · rw [positionEnded_eq]; exact iff_of_false Bool.false_ne_true h1
  · rw [cyclePos_eq]; exact iff_of_false Bool.false_ne_true h1

/-- the position always lies in [0,1] — every repeat/reverse shape, every time -/
theorem pos_in_unit (hd : 0 < ts.duration) (t : ℚ) :
    0 ≤ (ts.position t).value ∧ (ts.position t).value ≤ 1 :=
  position_value_unit ts hd t

/-- the reported total duration is `delay + cycle × (repeats + 1)`, infinite for infinite repeat -/
theorem total_duration :
    ts.totalDuration = match ts.repeat_ with
      | .none => some (ts.delay + ts.duration * 1)
      | .times n => some (ts.delay + ts.duration * ((n : ℚ) + 1))
      | .infinite => none := by
  unfold TimeScale.totalDuration
  cases ts.repeat_ <;> simp [Repeat.ordinal]

theorem ended_iff_past_total (t : ℚ) :
    (ts.position t).isEnded = true ↔ ts.delay ≤ t ∧ ∃ T ∈ ts.totalDuration, T < t := by
  rw [position_eq]
  split_ifs with h1 h2
  · exact iff_of_false Bool.false_ne_true fun h => not_le.2 h1 h.1
  · rw [positionEnded_eq]; exact iff_of_true rfl ⟨not_lt.1 h1, h2⟩
  · rw [cyclePos_eq]; exact iff_of_false Bool.false_ne_true fun h => h2 h.2

/-- terminal exactly when the time since the delay exceeds cycle × (repeats + 1); never for Infinite -/
theorem ended_iff (t : ℚ) :
    (ts.position t).isEnded = true ↔
      match ts.repeat_ with
      | .none => 0 ≤ t - ts.delay ∧ ts.duration < t - ts.delay
      | .times n => 0 ≤ t - ts.delay ∧ ts.duration * ((n : ℚ) + 1) < t - ts.delay
      | .infinite => False := by
  rw [ended_iff_past_total, total_duration]
  cases ts.repeat_ <;> simp [lt_sub_iff_add_lt']

/-- the reported total duration agrees with the behaviour: terminal exactly when the time is past it -/
theorem metadata_agrees (t : ℚ) (h0 : ts.delay ≤ t) :
    (ts.position t).isEnded = true ↔ ∃ T, ts.totalDuration = some T ∧ T < t := by
  simp [ended_iff_past_total, h0]

/-- once terminal the position is 100 %, or the original 0 % when reversing -/
theorem ended_value (t : ℚ) (h : (ts.position t).isEnded = true) :
    (ts.position t).value = if ts.reverse then 0 else 1 := by
  obtain ⟨h0, hT⟩ := (ended_iff_past_total ts t).1 h
  rw [position_eq, if_neg (not_lt.2 h0), if_pos hT, positionEnded_eq]; rfl

theorem running_value {t : ℚ} (h0 : ts.delay ≤ t) (hne : (ts.position t).isEnded = false) :
    (ts.position t).value = tri ts.reverse (loopCycle ts.duration (t - ts.delay) / ts.duration) := by
  rw [position_eq, if_neg (not_lt.2 h0)] at hne ⊢
  split_ifs at hne ⊢
  · rw [positionEnded_eq] at hne; cases hne
  · rw [cyclePos_eq]; rfl

/-- closed form of the position while active: the triangular fold of the cycle ratio, with the
hold-at-the-end rule on exact cycle multiples (stated, not hidden, in `loopCycle`) -/
theorem active_value (t : ℚ) (h0 : ts.delay ≤ t) (hne : (ts.position t).isEnded = false) :
    (ts.position t).value =
      match ts.repeat_ with
      | .none => tri ts.reverse ((t - ts.delay) / ts.duration)
      | _ => tri ts.reverse (loopCycle ts.duration (t - ts.delay) / ts.duration) := by
  rw [running_value ts h0 hne]
  cases hr : ts.repeat_ with
  | none =>
    -- a single pass that has not ended is within its first cycle, where `loopCycle` is the identity
    have hne' := (ended_iff ts t).not.1 (Bool.eq_false_iff.1 hne)
    rw [hr] at hne'
    rw [loopCycle_of_le (sub_nonneg.2 h0) (not_lt.1 fun h => hne' ⟨sub_nonneg.2 h0, h⟩)]
  | _ => rfl

theorem first_cycle {c : ℚ} (h0 : 0 ≤ c) (h1 : c < ts.duration) :
    ts.position (ts.delay + c) = ts.cyclePos c false := by
  have hd := h0.trans_lt h1
  have hr : ¬ 1 < c / ts.duration := not_lt.2 ((div_lt_one hd).2 h1).le
  have hT : ¬ ∃ T ∈ ts.totalDuration, T < ts.delay + c := by
    rintro ⟨T, hT, hlt⟩
    linarith [le_totalDuration hd hT]
  rw [position_eq, if_neg (by linarith), if_neg hT, add_sub_cancel_left, loopCycle_of_le h0 h1.le]
  simp [hr]

/-- rises linearly over one cycle (first cycle, not reversing) -/
theorem linear_first_cycle (hd : 0 < ts.duration) (hrev : ts.reverse = false) (c : ℚ)
    (h0 : 0 ≤ c) (h1 : c < ts.duration) :
    (ts.position (ts.delay + c)).value = c / ts.duration := by
  rw [first_cycle ts h0 h1, cyclePos_eq, hrev]; rfl

/-- when reversing: rises over the first half of the cycle and falls symmetrically over the second -/
theorem triangular_first_cycle (hd : 0 < ts.duration) (hrev : ts.reverse = true) (c : ℚ)
    (h0 : 0 ≤ c) (h1 : c < ts.duration) :
    (ts.position (ts.delay + c)).value =
      if c / ts.duration ≤ 1 / 2 then 2 * (c / ts.duration) else 2 * (1 - c / ts.duration) := by
  rw [first_cycle ts h0 h1, cyclePos_eq, hrev]
  -- `tri` tests `½ < r`, the statement `r ≤ ½`: flip the test, swap the branches, commute the factor 2
  simp only [Pos.value, tri, if_true, ← not_le, ite_not, mul_comm]

/-- the triangular wave is symmetric: ratio r and 1 − r give the same position -/
theorem tri_mirror (r : ℚ) : tri true r = tri true (1 - r) := by
  unfold tri; simp only [if_true]
  rcases lt_trichotomy r (1 / 2) with h | h | h
  · rw [if_neg (by linarith), if_pos (by linarith)]; ring
  · subst h; norm_num
  · rw [if_pos h, if_neg (by linarith)]

/-- falls symmetrically: within the first cycle, `delay + c` and `delay + (cycle − c)` show the same position -/
theorem mirror_first_cycle (hd : 0 < ts.duration) (hrev : ts.reverse = true) (c : ℚ)
    (h0 : 0 < c) (h1 : c < ts.duration) :
    (ts.position (ts.delay + c)).value = (ts.position (ts.delay + (ts.duration - c))).value := by
  rw [first_cycle ts h0.le h1, first_cycle ts (by linarith) (by linarith), cyclePos_eq, cyclePos_eq,
    hrev, sub_div, div_self hd.ne']
  exact tri_mirror _

theorem fmod_add_period {c d : ℚ} (hc : 0 ≤ c) (hd : 0 < d) : (fmod (c + d) d : ℚ) = fmod c d := by
  simpa using fmod_add_mul hc hd 1

/-- repeats with a period equal to the cycle duration from the first instant after the delay on, while
neither instant is terminal (at `t = delay` itself the position is 0 %, one cycle later the held 100 %) -/
theorem periodic_after_delay (hd : 0 < ts.duration) {t : ℚ} (h0 : ts.delay < t)
    (hne : (ts.position (t + ts.duration)).isEnded = false) (hne0 : (ts.position t).isEnded = false) :
    (ts.position (t + ts.duration)).value = (ts.position t).value := by
  rw [running_value ts (by linarith) hne, running_value ts h0.le hne0, add_sub_right_comm,
    loopCycle_add_period hd (sub_pos.2 h0)]

/-- repeats with a period equal to the cycle duration: away from exact cycle multiples (where the
hold rule shows the end value instead), and while neither instant is terminal -/
theorem periodic (hd : 0 < ts.duration) (hr : ts.repeat_ ≠ .none) (t : ℚ) (h0 : ts.delay ≤ t)
    (hrem : (fmod (t - ts.delay) ts.duration : ℚ) ≠ 0)
    (hne : (ts.position (t + ts.duration)).isEnded = false) (hne0 : (ts.position t).isEnded = false) :
    (ts.position (t + ts.duration)).value = (ts.position t).value := by
  refine periodic_after_delay ts hd (lt_of_le_of_ne h0 ?_) hne hne0
  rintro rfl
  exact hrem (by rw [sub_self, fmod_of_lt le_rfl hd])

/-- the end of every pass shows the end position before any wrap: at `delay + k·cycle`, `k ≥ 1`,
the cycle ratio is 1 (position 100 %, or 0 % at the end of a reverse pass), never 0 -/
theorem hold_at_cycle_end (hd : 0 < ts.duration) (hr : ts.repeat_ ≠ .none) (k : Nat) (hk : 1 ≤ k)
    (hne : (ts.position (ts.delay + ts.duration * k)).isEnded = false) :
    (ts.position (ts.delay + ts.duration * k)).value = if ts.reverse then 0 else 1 := by
  rw [running_value ts (le_add_of_nonneg_right (mul_nonneg hd.le k.cast_nonneg)) hne, add_sub_cancel_left,
    loopCycle_mul hd hk, div_self hd.ne', tri_one]

/-- the built timeline reports exactly what the builder was given -/
theorem metadata_as_configured (fields : List (AnimField ℚ)) (cfg : Config ℚ) :
    (Timeline.build fields cfg).delay = cfg.delay ∧
    (Timeline.build fields cfg).cycleDuration = some cfg.duration ∧
    (Timeline.build fields cfg).repeat_ = cfg.repeat_ ∧
    (Timeline.build fields cfg).duration =
      (TimeScale.mk cfg.delay cfg.duration cfg.repeat_ cfg.reverse).totalDuration := by
  simp [Timeline.build, Timeline.delay, Timeline.cycleDuration, Timeline.repeat_, Timeline.duration]

/-! Non-vacuity: a delayed, reversing, repeat-2 time scale meets every hypothesis above. -/
example : let ts : TimeScale ℚ := ⟨1, 2, .times 2, true⟩
    0 < ts.duration ∧ ts.repeat_ ≠ .none ∧ (ts.position (1 + 2 * 1)).isEnded = false ∧
    (ts.position (1 + 2 * 1)).value = 0 ∧ (ts.position 8).isEnded = true := by
  refine ⟨by norm_num, by simp, ?_, ?_, ?_⟩ <;> decide +kernel

end C03
