import MinaProofs.Lemmas.Sort
/-!
# C11 — The order in which keyframes are added does not matter

Model: `Timeline.build` (= `TimelineBuilderArguments::from` + the derive-generated `build`), with the
repaired code in which the boundary times are those of the *sorted* keyframes (fix 0c5d3a1; on the
pinned tree the statement is false — witness in `corpus/C11/`).
-/
namespace C11

/-- adding the same keyframes (at pairwise distinct positions) in any permutation yields the *same built
timeline* — hence identical results at all times, identical metadata, identical everything -/
theorem build_perm_invariant (fields : List (AnimField ℚ)) (cfg : Config ℚ) (kfs' : List (Keyframe ℚ))
    (hp : cfg.keyframes.Perm kfs') (hd : cfg.keyframes.Pairwise (fun a b => a.time ≠ b.time)) :
    Timeline.build fields { cfg with keyframes := kfs' } = Timeline.build fields cfg := by
  simp only [Timeline.build]
  rw [sortKfs_perm_invariant hp hd]

theorem update_perm_invariant (fields : List (AnimField ℚ)) (cfg : Config ℚ) (kfs' : List (Keyframe ℚ))
    (hp : cfg.keyframes.Perm kfs') (hd : cfg.keyframes.Pairwise (fun a b => a.time ≠ b.time))
    (target : List (Val ℚ)) (time : ℚ) :
    (Timeline.build fields { cfg with keyframes := kfs' }).update target time =
      (Timeline.build fields cfg).update target time := by
  rw [build_perm_invariant fields cfg kfs' hp hd]

/-- the sort the builder applies is stable-sorted, a permutation of the input, and canonical -/
theorem sorted_and_perm (l : List (Keyframe ℚ)) : (sortKfs l).Pairwise kfLe ∧ (sortKfs l).Perm l :=
  ⟨sortKfs_sorted l, sortKfs_perm l⟩

/-- the boundary times handed to the binary search are sorted (what the repaired line guarantees) -/
theorem boundary_sorted (fields : List (AnimField ℚ)) (cfg : Config ℚ) :
    (Timeline.build fields cfg).boundary.Pairwise (· ≤ ·) :=
  List.pairwise_map.2 (sortKfs_sorted cfg.keyframes)

/-! Non-vacuity: the witness of the repaired defect — 50 %, 100 %, 0 % — builds the same timeline
as 0 %, 50 %, 100 %. -/
example :
    let k (t v : ℚ) : Keyframe ℚ := ⟨t, none, [some (.num v)]⟩
    let cfg : Config ℚ := { (Config.default : Config ℚ) with keyframes := [k (1/2) 100, k 1 0, k 0 0] }
    Timeline.build [⟨0, .num 0⟩] { cfg with keyframes := [k 0 0, k (1/2) 100, k 1 0] } = Timeline.build [⟨0, .num 0⟩] cfg := by
  intro k cfg
  apply build_perm_invariant
  · simp only [cfg]
    exact List.perm_append_comm (l₁ := [_, _]) (l₂ := [_])
  · simp only [cfg, k]; norm_num [List.pairwise_cons]

end C11
