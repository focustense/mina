import MinaProofs.Lemmas.RatNum
/-!
# C14 — Linear interpolation obeys the lerp laws for every numeric type

Model: `MinaModel/Lerp.lean` (`lerp`, `lerpInt`, `Val.lerp`, `lerpVec`) at `α = ℚ`.
The integer kinds and their bounds come from the table generated from `interpolation.rs`.
-/
namespace C14

/-- the model's lerp is the real interpolation `a + x(b − a)` -/
theorem lerp_eq_real (a b x : ℚ) : lerp a b x = a + x * (b - a) := by
  simp only [lerp, lit_rat]; push_cast; ring

theorem lerp_at_zero (a b : ℚ) : lerp a b 0 = a := by rw [lerp_eq_real]; ring
theorem lerp_at_one (a b : ℚ) : lerp a b 1 = b := by rw [lerp_eq_real]; ring
theorem lerp_same (a x : ℚ) : lerp a a x = a := by rw [lerp_eq_real]; ring

/-- monotone in `x` when `a ≤ b` … -/
theorem lerp_mono (a b x y : ℚ) (hab : a ≤ b) (hxy : x ≤ y) : lerp a b x ≤ lerp a b y := by
  rw [lerp_eq_real, lerp_eq_real]
  exact add_le_add_right (mul_le_mul_of_nonneg_right hxy (sub_nonneg.2 hab)) _
/-- … and antitone when `b ≤ a` -/
theorem lerp_anti (a b x y : ℚ) (hba : b ≤ a) (hxy : x ≤ y) : lerp a b y ≤ lerp a b x := by
  rw [lerp_eq_real, lerp_eq_real]
  exact add_le_add_right (mul_le_mul_of_nonpos_right hxy (sub_nonpos.2 hba)) _

theorem lerp_between (a b x : ℚ) (h0 : 0 ≤ x) (h1 : x ≤ 1) :
    min a b ≤ lerp a b x ∧ lerp a b x ≤ max a b := by
  rcases le_total a b with h | h
  · rw [min_eq_left h, max_eq_right h]
    exact ⟨(lerp_at_zero a b).symm.trans_le (lerp_mono a b 0 x h h0),
      (lerp_mono a b x 1 h h1).trans_eq (lerp_at_one a b)⟩
  · rw [min_eq_right h, max_eq_left h]
    exact ⟨(lerp_at_one a b).symm.trans_le (lerp_anti a b x 1 h h1),
      (lerp_anti a b 0 x h h0).trans_eq (lerp_at_zero a b)⟩

/-- what the integer `lerp` is in exact arithmetic: round the real interpolation, then the range check of
`from_f32` (`round` of a rational is integral, so the conversion itself cannot fail) -/
theorem lerpInt_eq (k : Gen.IntKind) (a b : Int) (x : ℚ) :
    lerpInt k a b x =
      if k.lo ≤ roundInt (lerp (a : ℚ) b x) ∧ roundInt (lerp (a : ℚ) b x) ≤ k.hi
      then .ok (roundInt (lerp (a : ℚ) b x)) else .error .intRange := by
  simp only [lerpInt, round_rat, toInt_rat, ofInt_rat, round_eq_roundInt, toInt_intCast]

theorem roundInt_lerp_between (a b : Int) {x : ℚ} (h0 : 0 ≤ x) (h1 : x ≤ 1) :
    min a b ≤ roundInt (lerp (a : ℚ) b x) ∧ roundInt (lerp (a : ℚ) b x) ≤ max a b := by
  obtain ⟨hlo, hhi⟩ := lerp_between (a : ℚ) b x h0 h1
  rw [← Int.cast_min] at hlo
  rw [← Int.cast_max] at hhi
  exact ⟨le_roundInt hlo, roundInt_le hhi⟩

/-- Integer types: the result is the real interpolation rounded to nearest (ties away from zero),
and for `x ∈ [0,1]` with both ends inside the type's range the checked conversion never panics —
across the type's full range (e.g. `i8` −128..127), for every integer kind in the generated table. -/
theorem lerpInt_is_rounded (k : Gen.IntKind) (a b : Int) (x : ℚ) (h0 : 0 ≤ x) (h1 : x ≤ 1)
    (ha : k.lo ≤ a ∧ a ≤ k.hi) (hb : k.lo ≤ b ∧ b ≤ k.hi) :
    lerpInt k a b x = .ok (roundInt ((a : ℚ) + x * ((b : ℚ) - a))) := by
  obtain ⟨hlo, hhi⟩ := roundInt_lerp_between a b h0 h1
  rw [lerpInt_eq, if_pos ⟨(le_min ha.1 hb.1).trans hlo, hhi.trans (max_le ha.2 hb.2)⟩, lerp_eq_real]

theorem lerpInt_between (k : Gen.IntKind) (a b : Int) (x : ℚ) (h0 : 0 ≤ x) (h1 : x ≤ 1)
    (ha : k.lo ≤ a ∧ a ≤ k.hi) (hb : k.lo ≤ b ∧ b ≤ k.hi) :
    ∃ n, lerpInt k a b x = .ok n ∧ min a b ≤ n ∧ n ≤ max a b := by
  refine ⟨_, lerpInt_is_rounded k a b x h0 h1 ha hb, ?_⟩
  rw [← lerp_eq_real]
  exact roundInt_lerp_between a b h0 h1

theorem lerpInt_at_zero (k : Gen.IntKind) (a b : Int)
    (ha : k.lo ≤ a ∧ a ≤ k.hi) (hb : k.lo ≤ b ∧ b ≤ k.hi) : lerpInt k a b (0 : ℚ) = .ok a := by
  rw [lerpInt_eq, lerp_at_zero, roundInt_intCast, if_pos ha]

theorem lerpInt_at_one (k : Gen.IntKind) (a b : Int)
    (ha : k.lo ≤ a ∧ a ≤ k.hi) (hb : k.lo ≤ b ∧ b ≤ k.hi) : lerpInt k a b (1 : ℚ) = .ok b := by
  rw [lerpInt_eq, lerp_at_one, roundInt_intCast, if_pos hb]

theorem lerpInt_same (k : Gen.IntKind) (a : Int) (x : ℚ) (h0 : 0 ≤ x) (h1 : x ≤ 1)
    (ha : k.lo ≤ a ∧ a ≤ k.hi) : lerpInt k a a x = .ok a := by
  rw [lerpInt_eq, lerp_same, roundInt_intCast, if_pos ha]

/-- monotone in `x` (rounding is monotone) -/
theorem lerpInt_mono (k : Gen.IntKind) (a b : Int) (x y : ℚ) (hx : 0 ≤ x) (hxy : x ≤ y) (hy : y ≤ 1)
    (hab : a ≤ b) (ha : k.lo ≤ a ∧ a ≤ k.hi) (hb : k.lo ≤ b ∧ b ≤ k.hi) :
    ∃ m n, lerpInt k a b x = .ok m ∧ lerpInt k a b y = .ok n ∧ m ≤ n := by
  refine ⟨_, _, lerpInt_is_rounded k a b x hx (le_trans hxy hy) ha hb,
    lerpInt_is_rounded k a b y (le_trans hx hxy) hy ha hb, roundInt_mono ?_⟩
  rw [← lerp_eq_real, ← lerp_eq_real]
  exact lerp_mono _ _ x y (Int.cast_le.2 hab) hxy

/-- `Val`-level dispatch: floats use `lerp`, integers `lerpInt` of their own kind -/
theorem val_lerp_num (p q x : ℚ) : (Val.num p).lerp (Val.num q) x = .ok (Val.num (lerp p q x)) := rfl
theorem val_lerp_int (k : Gen.IntKind) (m n : Int) (x : ℚ) :
    (Val.int k m : Val ℚ).lerp (Val.int k n) x = (lerpInt k m n x).map (Val.int k) := by
  simp [Val.lerp]

/-- glam vectors interpolate component-wise: the i-th component of the result is the scalar lerp of
the i-th components (and the result has as many components as the shorter input). -/
theorem vec_componentwise (as bs : List (Val ℚ)) (x : ℚ) (rs : List (Val ℚ))
    (h : lerpVec as bs x = .ok rs) :
    rs.length = min as.length bs.length ∧
    ∀ i (hi : i < rs.length) (ha : i < as.length) (hb : i < bs.length),
      (as[i]).lerp (bs[i]) x = .ok (rs[i]) := by
  fun_induction lerpVec as bs x generalizing rs with
  | case1 a as b bs x v hv vs hvs ih =>
    cases h
    obtain ⟨hl, hc⟩ := ih vs hvs
    refine ⟨by simp [hl, Nat.succ_min_succ], fun i hi ha hb => ?_⟩
    cases i with
    | zero => exact hv
    | succ j => exact hc j (Nat.lt_of_succ_lt_succ hi) (Nat.lt_of_succ_lt_succ ha) (Nat.lt_of_succ_lt_succ hb)
  | case2 | case3 => cases h
  | case4 as bs x hne =>
    -- the catch-all arm: one of the lists is empty
    cases h
    refine ⟨?_, fun i hi => absurd hi (Nat.not_lt_zero i)⟩
    rcases as with _ | ⟨a, as⟩
    · simp
    · rcases bs with _ | ⟨b, bs⟩
      · simp
      · exact (hne a as b bs rfl rfl).elim

/-! Non-vacuity: the hypotheses are met by the boundary case the property names (i8, −128..127). -/
example : lerpInt (α := ℚ) .i8 (-128) 127 (1 / 2) = .ok (-1) := by
  rw [lerpInt_is_rounded .i8 (-128) 127 (1/2) (by norm_num) (by norm_num) (by decide) (by decide)]
  norm_num [roundInt]

end C14
