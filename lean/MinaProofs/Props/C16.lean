import MinaProofs.Props.C15
/-!
# C16 — `animator!` produces exactly the animator the builder API would

Model: `MinaModel/Macro/Animator.lean` (`expandAnimator` = `expand_animator`, arm bodies through the
`timeline!` token model). What is compared is the animator *configuration* (initial state, initial
values, timeline per state); behaviour over every history then follows from equality of configurations
and C05. Generic in the number system.
-/
namespace C16

variable {α : Type} [Num α]

theorem expandArms_cons_ok {states : List String} {s : Sentence} {rest : List (List String × Sentence)}
    {ons : List (String × Expansion α)} (h : expandArms (α := α) ((states, s) :: rest) = .ok ons) :
    ∃ ex more, expandSentence (α := α) s = .ok ex ∧ expandArms (α := α) rest = .ok more ∧
      states.map (fun st => (st, ex)) ++ more = ons := by
  rw [expandArms] at h
  split at h
  next => cases h
  next ex hs =>
    split at h
    next => cases h
    next more hr => cases h; exact ⟨ex, more, hs, hr, rfl⟩

/-- `default(state, values)` sets the initial state and the initial values: omitted ⇒ the type's `Default`
(`none_`), an expression is used as is, an inline list assigns exactly the listed fields on top of
`Default` -/
theorem defaults_as_documented (inp : AnimatorInput) (ex : AnimatorExpansion α)
    (h : expandAnimator (α := α) inp = .ok ex) :
    ex.run.initialState = inp.defaults.map (·.1) ∧
    ex.run.initialValues = (match inp.defaults with | some (_, v) => v | none => .none_) := by
  revert h
  fun_cases expandAnimator (α := α) inp <;> intro h <;> cases h
  exact ⟨rfl, by cases inp.defaults <;> rfl⟩

/-- the `.on` calls: every arm contributes one call per listed state, all with the *same* expansion, in
source order -/
theorem arms_in_order (arms : List (List String × Sentence)) (ons : List (String × Expansion α))
    (h : expandArms (α := α) arms = .ok ons) :
    ∃ exs : List (Expansion α), exs.length = arms.length ∧
      (∀ i (hi : i < arms.length) (hj : i < exs.length), expandSentence (α := α) (arms[i]).2 = .ok (exs[i])) ∧
      ons = ((arms.zip exs).map fun (a, ex) => a.1.map fun st => (st, ex)).flatten := by
  induction arms generalizing ons with
  | nil => cases h; exact ⟨[], rfl, nofun, rfl⟩
  | cons a rest ih =>
    obtain ⟨ex, more, hs, hr, rfl⟩ := expandArms_cons_ok h
    obtain ⟨exs, hl, hall, rfl⟩ := ih more hr
    refine ⟨ex :: exs, congrArg _ hl, fun i hi hj => ?_, rfl⟩
    cases i with
    | zero => exact hs
    | succ j => exact hall j _ _

/-- `A | B => …` installs the same timeline for each listed state -/
theorem multi_state_arm_same_timeline (states : List String) (s : Sentence) (ons : List (String × Expansion α))
    (h : expandArms (α := α) [(states, s)] = .ok ons) :
    ∃ ex, expandSentence (α := α) s = .ok ex ∧ ons = states.map fun st => (st, ex) := by
  obtain ⟨ex, _, hs, hr, rfl⟩ := expandArms_cons_ok h
  cases hr
  exact ⟨ex, hs, List.append_nil _⟩

/-- states not mentioned in any arm have no timeline -/
theorem unmentioned_state_has_no_timeline (ex : AnimatorExpansion α) (st : String)
    (h : ∀ p ∈ ex.ons, p.1 ≠ st) : ex.run.timelineOf st = none := by
  simp only [AnimatorExpansion.run, Option.map_eq_none_iff, List.find?_eq_none, List.mem_reverse, beq_iff_eq]
  exact h

omit [Num α] in
theorem last_on_wins {pre post : List (String × Expansion α)} {st : String} {e : Expansion α}
    {ex : AnimatorExpansion α} (hons : ex.ons = pre ++ (st, e) :: post) (hpost : ∀ p ∈ post, p.1 ≠ st) :
    ex.run.timelineOf st = some e := by
  have hnone : post.reverse.find? (·.1 == st) = none := by
    simp only [List.find?_eq_none, List.mem_reverse, beq_iff_eq]
    exact hpost
  simp only [AnimatorExpansion.run, hons, List.reverse_append, List.reverse_cons, List.append_assoc, List.find?_append,
    hnone, Option.none_or, List.cons_append, List.nil_append, List.find?_cons, beq_self_eq_true, Option.map_some]

/-- when a state is mentioned in several arms the last one wins (`EnumMap` assignment) -/
theorem last_arm_wins (ons : List (String × Expansion α)) (st : String) (e : Expansion α)
    (ex : AnimatorExpansion α) (hons : ex.ons = ons ++ [(st, e)]) :
    ex.run.timelineOf st = some e :=
  last_on_wins hons (List.forall_mem_nil _)

/-- a bracketed arm installs a merged timeline of its members in order; a plain arm a single timeline:
by C15.`merged_list_in_order` / `single_member_list`, since arm bodies are `timeline!` sentences. The word
`default` as a keyframe body is passed through as `values_from(pos, &default_values)` (`KfVals.default_`),
which the derive-generated builder (C17.`one_setter_per_animated_field`) turns into the initial
values of every animated field. -/
theorem default_keyframe_passed_through (pre post : List Arg) (p : KfPos) :
    (collect (pre ++ .keyframe p .default_ :: post)).keyframes =
      (collect pre).keyframes ++ (p, .default_) :: (collect post).keyframes := by
  simp only [(C15.last_duplicate_wins _).2.2.2.2.2, List.filterMap_append, List.filterMap_cons]

theorem expandArms_error_of_mem {arms : List (List String × Sentence)} {a : List String × Sentence} {e : MacroErr}
    (ha : a ∈ arms) (hbad : expandSentence (α := α) a.2 = .error e) : ∃ e', expandArms (α := α) arms = .error e' := by
  cases h : expandArms (α := α) arms with
  | error e' => exact ⟨e', rfl⟩
  | ok ons =>
    obtain ⟨exs, hl, hall, -⟩ := arms_in_order arms ons h
    obtain ⟨i, hi, rfl⟩ := List.getElem_of_mem ha
    cases hbad.symm.trans (hall i hi (hl ▸ hi))

/-- an ill-formed arm body rejects the whole block -/
theorem illformed_arm_rejects (pre post : List (List String × Sentence)) (states : List String) (s : Sentence)
    (e : MacroErr) (hbad : expandSentence (α := α) s = .error e)
    (hpre : ∃ ons, expandArms (α := α) pre = .ok ons) (d : Option (String × DefaultValues)) :
    ∃ e', expandAnimator (α := α) ⟨d, pre ++ (states, s) :: post⟩ = .error e' := by
  obtain ⟨e', he'⟩ := expandArms_error_of_mem (a := (states, s)) (arms := pre ++ (states, s) :: post) (by simp) hbad
  exact ⟨e', by rw [expandAnimator, he']⟩

end C16
