import MinaProofs.Lemmas.FromKeyframes
import MinaProofs.Lemmas.Writes
import MinaProofs.Lemmas.Animator
/-!
# C08 — Properties a timeline does not animate are never touched

Model: `Timeline.update` / `applySubs` (the derive-generated `update`), `Merged.update`, the animator.
These theorems are *generic in the number system* (`[Num α]`): they hold for the model at ℚ and at
`Float32` alike — no arithmetic is involved, only which slots can be written.
A target is the list of all fields of the struct; `tl.subs` pairs each animated field's index with its
sub-timeline.
-/
namespace C08

variable {α : Type} [Num α]

/-- the animated indices of a built timeline are exactly the fields handed to the builder -/
theorem build_animated_indices (fields : List (AnimField α)) (cfg : Config α) :
    (Timeline.build fields cfg).subs.map Prod.fst = fields.map (·.idx) := by
  simp only [Timeline.build, List.map_map]
  show List.map ((·.idx) ∘ Prod.fst) fields.zipIdx = _
  rw [← List.map_map, List.zipIdx_map_fst]

/-- a field that is not animated (excluded from the derive, or simply not among the timeline's
sub-timelines) is never modified — at every time, in every phase -/
theorem update_untouched (tl : Timeline α) (target res : List (Val α)) (time : α)
    (h : tl.update target time = .ok res) (i : Nat) (hi : i ∉ tl.subs.map Prod.fst) :
    res[i]? = target[i]? :=
  update_getElem?_of_none h fun _ _ _ _ _ hs => absurd (List.mem_map.2 ⟨_, hs, rfl⟩) hi

theorem update_length (tl : Timeline α) (target res : List (Val α)) (time : α)
    (h : tl.update target time = .ok res) : res.length = target.length := by
  obtain ⟨W, -, rfl⟩ := update_ok_iff.1 h
  exact applyWrites_length W target

/-- a timeline with no keyframes modifies nothing at all -/
theorem no_keyframes_noop (fields : List (AnimField α)) (cfg : Config α) (h : cfg.keyframes = [])
    (target : List (Val α)) (time : α) : (Timeline.build fields cfg).update target time = .ok target := by
  simp [Timeline.update, Timeline.build, h, sortKfs, prepareFrame]

/-- an animated field for which no keyframe has a value is never modified either (its sub-timeline is
empty), whatever the other fields do; `j` is the field's position in the animated-field list -/
theorem property_without_keyframe_untouched (fields : List (AnimField α)) (cfg : Config α)
    (hnd : (fields.map (·.idx)).Nodup) (j : Nat) (hj : j < fields.length)
    (hno : ∀ k ∈ cfg.keyframes, k.vals.getD j none = none)
    (target res : List (Val α)) (time : α) (h : (Timeline.build fields cfg).update target time = .ok res) :
    res[(fields[j]).idx]? = target[(fields[j]).idx]? := by
  refine update_getElem?_of_none h fun t idx ovr s _ hp => ?_
  simp only [Timeline.build, List.mem_map, Prod.mk.injEq] at hp
  obtain ⟨⟨f, j'⟩, hmem, hpi, rfl⟩ := hp
  have hf : fields[j']? = some f := List.mem_zipIdx_iff_getElem?.1 hmem
  -- distinct indices: the field at `j'` has the index of the field at `j`, so `j' = j`
  obtain rfl : j = j' := (List.getElem?_inj (by simpa using hj) hnd).1 (by simpa [hf, hj] using hpi.symm)
  -- no keyframe has a value for field `j`, so its sub-timeline is the empty one
  rw [fromKeyframes_of_reals_nil _ (cssReals_of_noValue _
    (List.forall_mem_map.2 fun k hk => hno k ((mem_sortKfs k _).1 hk)))]
  exact empty_valueAt _ _ _

theorem merged_update_keeps (P : List (Val α) → Prop) {tls : List (Timeline α)} {time : α}
    (h : ∀ tl ∈ tls, ∀ v r, P v → tl.update v time = .ok r → P r) {v r : List (Val α)} (hv : P v)
    (hr : (Merged.mk tls).update v time = .ok r) : P r := by
  unfold Merged.update at hr
  fun_induction Merged.update.go time tls v with
  | case1 => exact Except.ok.inj hr ▸ hv
  | case2 tl rest v v' hu ih =>
    exact ih (fun x hx => h x (List.mem_cons_of_mem _ hx)) (h tl List.mem_cons_self v v' hv hu) hr
  | case3 => nomatch hr

theorem merged_update_fix {tls : List (Timeline α)} {v : List (Val α)} {time : α}
    (h : ∀ tl ∈ tls, tl.update v time = .ok v) : (Merged.mk tls).update v time = .ok v := by
  unfold Merged.update
  induction tls with
  | nil => rfl
  | cons tl rest ih =>
    simp only [Merged.update.go, h tl List.mem_cons_self]
    exact ih fun x hx => h x (List.mem_cons_of_mem _ hx)

/-- merged timelines: a field none of the components animates is never modified -/
theorem merged_untouched (m : Merged α) (target res : List (Val α)) (time : α)
    (h : m.update target time = .ok res) (i : Nat)
    (hi : ∀ tl ∈ m.timelines, i ∉ tl.subs.map Prod.fst) : res[i]? = target[i]? :=
  merged_update_keeps (fun v => v[i]? = target[i]?)
    (fun tl htl v r hv hu => (update_untouched tl v r time hu i (hi tl htl)).trans hv) rfl h

/-- "not animated by any state's timeline" -/
def notAnimated (a : Animator α) (i : Nat) : Prop :=
  ∀ m ∈ a.timelines, ∀ mg, m = some mg → ∀ tl ∈ mg.timelines, i ∉ tl.subs.map Prod.fst

open Animator

omit [Num α] in
theorem notAnimated_iff {a : Animator α} {i : Nat} :
    notAnimated a i ↔ a.All fun mg => ∀ tl ∈ mg.timelines, i ∉ tl.subs.map Prod.fst := by
  rw [all_iff_mem]
  exact ⟨fun h mg hm => h _ hm mg rfl, fun h m hm mg e => h mg (e ▸ hm)⟩

omit [Num α] in
theorem timeline?_mem (a : Animator α) (s : Nat) (tl : Merged α) (h : a.timeline? s = some tl) :
    some tl ∈ a.timelines := List.mem_of_getElem? (timeline?_eq_some.1 h)

omit [Num α] in
theorem startWith_notAnimated {m : Merged α} {i : Nat} (w : List (Val α))
    (h : ∀ tl ∈ m.timelines, i ∉ tl.subs.map Prod.fst) : ∀ tl ∈ (m.startWith w).timelines, i ∉ tl.subs.map Prod.fst := by
  intro tl ht
  obtain ⟨t0, ht0, rfl⟩ := List.mem_map.1 ht
  rw [startWith_subs_fst]
  exact h t0 ht0

theorem notAnimated_blendNext (a : Animator α) (s i : Nat) (h : notAnimated a i) : notAnimated (a.blendNext s) i :=
  notAnimated_iff.2 ((notAnimated_iff.1 h).blendNext (fun _ => startWith_notAnimated _) s)

theorem blendNext_values (a : Animator α) (s : Nat) : (a.blendNext s).values = a.values :=
  Animator.blendNext_values a s

theorem notePause_values (a : Animator α) (s : Nat) :
    (a.notePause s).values = a.values ∧ (a.notePause s).timelines = a.timelines := by
  rw [notePause_eq]; exact ⟨rfl, rfl⟩

theorem switchTo_values (a : Animator α) (s i : Nat) (h : notAnimated a i) :
    (a.switchTo s).values = a.values ∧ notAnimated (a.switchTo s) i :=
  ⟨Animator.switchTo_values a s,
    notAnimated_iff.2 ((notAnimated_iff.1 h).switchTo (fun _ => startWith_notAnimated _) s)⟩

theorem updateValues_untouched (a a' : Animator α) (i : Nat) (h : notAnimated a i)
    (hu : a.updateValues = .ok a') : a'.values[i]? = a.values[i]? ∧ a'.timelines = a.timelines := by
  cases htl : a.timeline? a.state with
  | none => rw [updateValues_of_none htl] at hu; cases hu; exact ⟨rfl, rfl⟩
  | some tl =>
    obtain ⟨v, rfl⟩ := updateValues_shape hu
    exact ⟨merged_untouched tl _ _ _ (updateValues_values hu htl) i (notAnimated_iff.1 h _ tl htl), rfl⟩

/-- one operation leaves such a field alone (and keeps it un-animated) -/
theorem step_untouched (a a' : Animator α) (op : AnimOp α) (i : Nat) (h : notAnimated a i)
    (hs : a.step op = .ok a') : a'.values[i]? = a.values[i]? ∧ notAnimated a' i := by
  refine ⟨?_, notAnimated_iff.2 ((notAnimated_iff.1 h).step (fun _ => startWith_notAnimated _) hs)⟩
  rcases step_eq_ok hs with ⟨ns, hs⟩ | ⟨s, hs⟩
  · exact (updateValues_untouched { a with stateNs := a.stateNs + ns } a' i h (advanceNs_eq_ok.1 hs).2).1
  · rcases setState_eq_ok hs with ⟨-, rfl⟩ | ⟨-, hs⟩
    · rfl
    · obtain ⟨hv, hn⟩ := switchTo_values a s i h
      exact hv ▸ (updateValues_untouched _ a' i hn hs).1

/-- in a state animator such properties keep whatever value they had, over any history -/
theorem animator_untouched (a a' : Animator α) (ops : List (AnimOp α)) (i : Nat) (h : notAnimated a i)
    (hr : a.run ops = .ok a') : a'.values[i]? = a.values[i]? :=
  (run_induction (I := fun b => b.values[i]? = a.values[i]? ∧ notAnimated b i)
    (fun b b' op hb hs => let ⟨hv, hn⟩ := step_untouched b b' op i hb.2 hs; ⟨hv.trans hb.1, hn⟩) ⟨rfl, h⟩ hr).1

end C08
