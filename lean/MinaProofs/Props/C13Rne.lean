import MinaProofs.Props.C13Rounded
import MinaProofs.Lemmas.Rne
/-! # C13 for binary32's own rounding (`rne24`, proved faithful in `Lemmas/Rne.lean`) -/
namespace C13

/-- in binary32 arithmetic every built-in easing maps 0 to 0 and 1 to 1 exactly -/
theorem ease_endpoints_binary32 (id : Gen.EasingId) :
    ((Easing.builtin id).calc (lit 0 : Rd rne24)).val = 0 ∧ ((Easing.builtin id).calc (lit 1 : Rd rne24)).val = 1 :=
  ⟨ease_zero_any_rounding Faithful.rne24 id _ Faithful.rne24.lit_zero,
   ease_one_any_rounding Faithful.rne24 id _ Faithful.rne24.lit_one⟩

end C13
