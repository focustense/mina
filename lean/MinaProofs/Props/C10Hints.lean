import MinaProofs.Lemmas.Timeline
import MinaProofs.Lemmas.Bounding
/-!
# C10 for a sub-timeline driven directly, with *any* index hint

`SubTimeline::value_at` is public; the derive's output always hands it the exact master index, but nothing stops a
caller from passing another one (one ahead is explicitly tolerated by the step-back branch).  Whatever the hint, the
substituted start value can only enter through frame 0:

* with the override disabled it never does (`overrideStart_valueAt_false`, any hint, any time);
* with the override enabled it does not as soon as the hint resolves to the property's frame `i ≥ 2`, or to frame 1 at
  or after that frame's time — because then neither bounding frame is frame 0.

This is the statement the seeded change S9-C10 breaks (its step-back restarts from the 0 % frame); it holds for an
arbitrary `SubTl`, built by `from_keyframes` or not, in every number system.
-/
namespace C10
variable {α : Type} [Num α]

theorem getFrame_override_pos (s : SubTl α) (v : Val α) (j : Nat) (hj : 1 ≤ j) (ovr : Bool) :
    (s.overrideStart v).getFrame j ovr = s.getFrame j ovr := by
  have h0 : (ovr && j == 0) = false := by rw [beq_false_of_ne (by omega), Bool.and_false]
  fun_cases SubTl.overrideStart s v
  · simp only [SubTl.getFrame, h0]; rfl
  · rfl

theorem overrideStart_frames (s : SubTl α) (v : Val α) :
    (s.overrideStart v).frames = s.frames ∧ (s.overrideStart v).indexMap = s.indexMap := by
  fun_cases SubTl.overrideStart s v <;> exact ⟨rfl, rfl⟩

/-- **any hint**: if it resolves to frame `i ≥ 2`, or to frame 1 at or after that frame's time, the bounding frames —
hence the value — are those of the un-substituted twin, override enabled or not -/
theorem override_only_through_frame0 (s : SubTl α) (v : Val α) (t : α) (hint i : Nat) (ovr : Bool)
    (hi : s.indexMap[hint]? = some i)
    (hcond : 2 ≤ i ∨ (i = 1 ∧ ∀ f, s.getFrame 1 ovr = some f → ¬ t < f.time)) :
    (s.overrideStart v).boundingFrames t hint ovr = s.boundingFrames t hint ovr := by
  obtain ⟨hfr, hmap⟩ := overrideStart_frames s v
  unfold SubTl.boundingFrames
  rw [hmap, hi, hfr]
  simp only
  -- the override is read by `getFrame` only, and only for frame 0; the lookup asks for frame `i` and, stepping back,
  -- for frame `i - 1`
  have hi1 : 1 ≤ i := by rcases hcond with h | ⟨h, _⟩ <;> omega
  rw [getFrame_override_pos s v i hi1 ovr]
  cases hfa : s.getFrame i ovr with
  | none => rfl
  | some fa =>
    simp only
    by_cases hlt : t < fa.time
    · -- the step back: from `i = 1` it would reach frame 0, but then `t` is not before frame 1
      simp only [hlt, if_true]
      rcases hcond with h2 | ⟨h1, hge⟩
      · have : 0 < i := by omega
        simp only [this, if_true]
        rw [getFrame_override_pos s v (i - 1) (by omega) ovr]
      · subst h1
        exact absurd hlt (hge fa hfa)
    · simp only [hlt, if_false]

theorem valueAt_override_only_through_frame0 (s : SubTl α) (v : Val α) (t : α) (hint i : Nat) (ovr : Bool)
    (hi : s.indexMap[hint]? = some i)
    (hcond : 2 ≤ i ∨ (i = 1 ∧ ∀ f, s.getFrame 1 ovr = some f → ¬ clamp01 t < f.time)) :
    (s.overrideStart v).valueAt t hint ovr = s.valueAt t hint ovr := by
  rw [valueAt_eq, valueAt_eq, override_only_through_frame0 s v (clamp01 t) hint i ovr hi hcond]

/-- non-vacuity, and the seeded change's own witness in the model: keyframes at 0 / 50 / 150 %, evaluated at 1.7 (clamped
to 1) with the truthful hint 2 — the frame before the hinted one is the 50 % frame, so the substituted value 999 is
invisible -/
example :
    let s : SubTl ℚ := SubTl.fromKeyframes
      [⟨0, some (.num 10), none⟩, ⟨1/2, some (.num 50), none⟩, ⟨3/2, some (.num 70), none⟩] (.num 0) Easing.default
    (s.overrideStart (.num 999)).valueAt (17/10) 2 true = s.valueAt (17/10) 2 true := by
  intro s
  apply valueAt_override_only_through_frame0 s _ _ 2 2 true
  · decide
  · left; exact le_refl 2

end C10
