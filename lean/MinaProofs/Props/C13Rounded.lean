import MinaProofs.Lemmas.Rounded
import MinaModel.Easing
/-!
# C13 under every faithful rounding: every built-in easing maps 0 to 0 and 1 to 1 *exactly*

lyon's `y(t) = from.y·(1−t)³ + c₁·3·(1−t)²·t + c₂·3·(1−t)·t² + to.y·t³` with `from.y = 0`, `to.y = 1`, evaluated in
the code's operation order with a rounding after every operation: at `t = 0` every product contains an exact zero,
at `t = 1` every product but the last does and the last is `1·1`.  No property of the control points is used, so the
statement covers the Back family and any `CubicBezierEasing` a user constructs.
-/

namespace C13
variable {ρ : ℚ → ℚ}

theorem bezY_zero_any_rounding (F : Faithful ρ) (c1 c2 t : Rd ρ) (ht : t.val = 0) : (bezY c1 c2 t).val = 0 := by
  simp [bezY, ht, F.one, F.zero]

theorem bezY_one_any_rounding (F : Faithful ρ) (c1 c2 t : Rd ρ) (ht : t.val = 1) : (bezY c1 c2 t).val = 1 := by
  simp [bezY, ht, F.one, F.zero]

/-- every built-in easing (all 29 rows of the table generated from `easing.rs`) fixes 0 exactly … -/
theorem ease_zero_any_rounding (F : Faithful ρ) (id : Gen.EasingId) (x : Rd ρ) (hx : x.val = 0) :
    ((Easing.builtin id).calc x).val = 0 := by
  unfold Easing.calc
  dsimp only
  split
  · exact hx
  · exact bezY_zero_any_rounding F _ _ _ hx

/-- … and 1 exactly -/
theorem ease_one_any_rounding (F : Faithful ρ) (id : Gen.EasingId) (x : Rd ρ) (hx : x.val = 1) :
    ((Easing.builtin id).calc x).val = 1 := by
  unfold Easing.calc
  dsimp only
  split
  · exact hx
  · exact bezY_one_any_rounding F _ _ _ hx

end C13
