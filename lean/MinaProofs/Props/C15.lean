import MinaProofs.Lemmas.RatNum
import MinaModel.Spec.Reading
/-!
# C15 — `timeline!` produces exactly the timeline the builder API would

Model: `MinaModel/Macro/Timeline.lean` — the argument loop of `TimelineConfig::parse` over token lists of
any length (`parseArg`/`parseArgs`/`parseList`), `collect` (later arguments overwrite earlier ones),
`expandCfg` (= `builder_create_timeline`, including the f32 arithmetic the macro does at expansion time),
`BuilderChain.run` (what the emitted builder chain configures). Constants (`s`→1.0, `ms`→0.001, `from`→0.0,
`to`→1.0, `%`→×0.01, the suffix dispatch) are regenerated from `fn_timeline.rs` on every run.
Spec: `Spec.reading` — the documented reading, with the documented constants written by hand.

"Observationally identical" then follows from equality of configurations: the builder-built timeline *is*
`Timeline.build` of that configuration (C01–C03).
-/
namespace C15
open Spec

theorem macro_consts_as_documented :
    Gen.secondsMultipliers = [("s", (10, 1)), ("ms", (1, 3))] ∧ Gen.durationSuffixes = ["s", "ms"] ∧
    Gen.repeatSuffix = "x" ∧ Gen.fromPosition = (0, 1) ∧ Gen.toPosition = (10, 1) ∧ Gen.percentFactor = (1, 2) := by
  decide

theorem secondsOf_eq_readSeconds (l : NumLit) : secondsOf (α := ℚ) l = readSeconds l := by
  unfold secondsOf secondsMultiplier readSeconds unitSeconds Gen.secondsMultipliers
  -- the table look-up is the same two tests, with the operands of `==` the other way round
  rw [List.find?_cons, List.find?_cons, List.find?_nil, BEq.comm (b := l.suffix), BEq.comm (a := "ms")]
  cases l.suffix == "s"
  · cases l.suffix == "ms"
    · rfl
    · simp [decConst, Except.map]
  · simp [decConst, Except.map]

theorem kfPosition_eq_readPosition (p : KfPos) : kfPosition (α := ℚ) p = readPosition p := by
  cases p <;> simp [kfPosition, readPosition, decConst, Gen.fromPosition, Gen.toPosition, Gen.percentFactor]

def collectStep (c : TlCfgM) (a : Arg) : TlCfgM :=
  match a with
  | .duration l => { c with duration := some l }
  | .delay l => { c with delay := some l }
  | .easing p => { c with easing := some p }
  | .repeatTimes l => { c with repeat_ := some (some l) }
  | .repeatInfinite => { c with repeat_ := some none }
  | .reverse => { c with reverse := true }
  | .keyframe p v => { c with keyframes := c.keyframes ++ [(p, v)] }

theorem collect_eq_foldl (args : List Arg) : collect args = args.foldl collectStep {} := rfl

def lastFrom {β : Type} (init : Option β) (l : List (Option β)) : Option β :=
  l.foldl (fun acc x => match x with | some v => some v | none => acc) init

theorem fold_fields (args : List Arg) (c : TlCfgM) :
    (args.foldl collectStep c).duration = lastFrom c.duration (args.map fun a => match a with | .duration l => some l | _ => none) ∧
    (args.foldl collectStep c).delay = lastFrom c.delay (args.map fun a => match a with | .delay l => some l | _ => none) ∧
    (args.foldl collectStep c).easing = lastFrom c.easing (args.map fun a => match a with | .easing p => some p | _ => none) ∧
    (args.foldl collectStep c).repeat_ = lastFrom c.repeat_ (args.map fun a => match a with | .repeatTimes l => some (some l) | .repeatInfinite => some none | _ => none) ∧
    (args.foldl collectStep c).reverse = (c.reverse || args.any fun a => match a with | .reverse => true | _ => false) ∧
    (args.foldl collectStep c).keyframes = c.keyframes ++ args.filterMap fun a => match a with | .keyframe p v => some (p, v) | _ => none := by
  induction args generalizing c with
  | nil => exact ⟨rfl, rfl, rfl, rfl, (Bool.or_false _).symm, (List.append_nil _).symm⟩
  | cons a rest ih =>
    obtain ⟨h1, h2, h3, h4, h5, h6⟩ := ih (collectStep c a)
    rw [List.foldl_cons, h1, h2, h3, h4, h5, h6]
    -- a step touches one field; there the two sides unfold to the same term, up to `Bool.or_true` for `reverse` and the
    -- association of `++` for a keyframe
    cases a with
    | reverse => exact ⟨rfl, rfl, rfl, rfl, (Bool.or_true _).symm, rfl⟩
    | keyframe p v => exact ⟨rfl, rfl, rfl, rfl, rfl, List.append_assoc ..⟩
    | _ => exact ⟨rfl, rfl, rfl, rfl, rfl, rfl⟩

/-- **last duplicate wins** (what the argument loop does, stated): every scalar setting is what the last
argument of its kind says; `reverse` is set iff it occurs; keyframes are kept in source order -/
theorem last_duplicate_wins (args : List Arg) :
    (collect args).duration = lastSome (args.map fun a => match a with | .duration l => some l | _ => none) ∧
    (collect args).delay = lastSome (args.map fun a => match a with | .delay l => some l | _ => none) ∧
    (collect args).easing = lastSome (args.map fun a => match a with | .easing p => some p | _ => none) ∧
    (collect args).repeat_ = lastSome (args.map fun a => match a with | .repeatTimes l => some (some l) | .repeatInfinite => some none | _ => none) ∧
    (collect args).reverse = (args.any fun a => match a with | .reverse => true | _ => false) ∧
    (collect args).keyframes = args.filterMap fun a => match a with | .keyframe p v => some (p, v) | _ => none :=
  fold_fields args {}

theorem combine3_map {A B C R S : Type} (a : Except MacroErr A) (b : Except MacroErr B) (c : Except MacroErr C)
    (f : A → B → C → R) (g : R → S) : (combine3 a b c f).map g = combine3 a b c (fun x y z => g (f x y z)) := by
  cases a <;> cases b <;> cases c <;> rfl

theorem combine3_maps {A A' B B' C C' R : Type} (a : Except MacroErr A) (b : Except MacroErr B) (c : Except MacroErr C)
    (p : A → A') (q : B → B') (r : C → C') (f : A' → B' → C' → R) :
    combine3 (a.map p) (b.map q) (c.map r) f = combine3 a b c (fun x y z => f (p x) (q y) (r z)) := by
  cases a <;> cases b <;> cases c <;> rfl

/-- the fallible parts of the reading are the macro's, mapped through the builder defaults -/
theorem secondsOrDefault_eq (o : Option NumLit) (dflt : ℚ) :
    secondsOrDefault o dflt = (optSeconds o).map (·.getD dflt) := by
  cases o with
  | none => rfl
  | some l =>
    simp only [secondsOrDefault, optSeconds, secondsOf_eq_readSeconds]
    cases readSeconds (α := ℚ) l <;> rfl

theorem repeatOrDefault_eq (o : Option (Option NumLit)) (dflt : Repeat) :
    repeatOrDefault o dflt = (optRepeat o).map (·.getD dflt) := by
  rcases o with _ | _ | l
  · rfl
  · rfl
  · simp only [repeatOrDefault, readRepeat, optRepeat]
    cases l.isU32 <;> rfl

/-- what the emitted chain configures, for any collected configuration: the documented reading of its fields -/
theorem expandCfg_run (c : TlCfgM) :
    (expandCfg (α := ℚ) c).map BuilderChain.run =
      combine3 (secondsOrDefault c.duration (Config.default (α := ℚ)).duration)
        (secondsOrDefault c.delay (Config.default (α := ℚ)).delay)
        (repeatOrDefault c.repeat_ (Config.default (α := ℚ)).repeat_) fun d dl r =>
        { duration := d, delay := dl, easing := c.easing, repeat_ := r,
          reverse := c.reverse || (Config.default (α := ℚ)).reverse,
          keyframes := c.keyframes.map fun (p, v) => (readPosition p, v) } := by
  rw [secondsOrDefault_eq, secondsOrDefault_eq, repeatOrDefault_eq, combine3_maps, expandCfg, combine3_map]
  congr 1
  funext d dl r
  simp only [BuilderChain.run, kfPosition_eq_readPosition]
  cases c.reverse <;> rfl

/-- **Soundness of the expansion.** For every argument list — any length, any order, duplicates included —
the configuration the emitted builder chain denotes is the documented reading of the sentence (and the
macro rejects exactly when the reading is undefined: a duration/delay without `s`/`ms`, a repeat count
that is not a `u32`). -/
theorem expand_sound (args : List Arg) :
    (expandCfg (α := ℚ) (collect args)).map BuilderChain.run = reading args := by
  obtain ⟨h1, h2, h3, h4, h5, h6⟩ := last_duplicate_wins args
  rw [expandCfg_run, h1, h2, h3, h4, h5, h6, List.map_filterMap]
  unfold reading
  congr 1
  funext d dl r
  congr 2
  funext a
  cases a <;> rfl

/-- two arguments "of different kinds" (they set different things; keyframes count as one kind because
their relative order is kept) -/
def independent (a b : Arg) : Bool :=
  let kind (x : Arg) : Nat := match x with
    | .duration _ => 0 | .delay _ => 1 | .easing _ => 2 | .repeatTimes _ => 3 | .repeatInfinite => 3
    | .reverse => 4 | .keyframe _ _ => 5
  kind a != kind b

theorem collectStep_comm (c : TlCfgM) (a b : Arg) (h : independent a b = true) :
    collectStep (collectStep c a) b = collectStep (collectStep c b) a := by
  -- different kinds write different fields; for equal kinds `h` is `false = true`
  cases a <;> cases b <;> first | rfl | cases h

/-- swapping two adjacent arguments of different kinds changes nothing; since adjacent swaps generate
every reordering that keeps the relative order of the keyframes and of repeated settings, the arguments
may come in any order -/
theorem args_any_order (pre post : List Arg) (a b : Arg) (h : independent a b = true) :
    collect (pre ++ a :: b :: post) = collect (pre ++ b :: a :: post) := by
  simp only [collect_eq_foldl, List.foldl_append, List.foldl_cons]
  rw [collectStep_comm _ a b h]

/-- a bracketed list of two or more members yields `MergedTimeline::of([…])` of the members' expansions
in order; a list of one yields the plain timeline (≈ singleton merge, C12.`singleton_transparent`) -/
theorem merged_list_in_order (toks : List Tok) (ass : List (List Arg))
    (hp : parseList (toks.length + 1) toks = .ok ass) (h2 : 2 ≤ ass.length) :
    expandSentence (α := ℚ) (.list toks) = (mapM' (fun as => expandCfg (α := ℚ) (collect as)) ass).map .merged := by
  simp only [expandSentence, hp]
  match ass, h2 with
  | _ :: _ :: _, _ => rfl

theorem single_member_list (toks : List Tok) (as : List Arg) (hp : parseList (toks.length + 1) toks = .ok [as]) :
    expandSentence (α := ℚ) (.list toks) = (expandCfg (α := ℚ) (collect as)).map .timeline := by
  simp only [expandSentence, hp]

/-- unknown suffix -/
theorem reject_unknown_suffix (l : NumLit) (rest : List Tok)
    (h1 : Gen.durationSuffixes.contains l.suffix = false) (h2 : l.suffix ≠ Gen.repeatSuffix) (h3 : l.suffix ≠ "") :
    parseArg (.lit l :: rest) = .error .unknownSuffix := by
  simp only [parseArg, h1, beq_eq_false_iff_ne.2 h2, beq_eq_false_iff_ne.2 h3, Bool.false_eq_true, if_false]

/-- a bare number that is not followed by `%` -/
theorem reject_missing_percent (l : NumLit) (rest : List Tok) (hs : l.suffix = "")
    (hr : ∀ r, rest ≠ .percent :: r) : parseArg (.lit l :: rest) = .error .missingPercent := by
  have e1 : Gen.durationSuffixes.contains "" = false := by decide
  have e2 : ("" == Gen.repeatSuffix) = false := by decide
  -- `hr` is what lets `simp` take the fall-through arm of the inner `match rest`
  simp only [parseArg, hs, e1, e2, beq_self_eq_true, Bool.false_eq_true, if_false, if_true]

/-- a repeat count that is not an integer literal -/
theorem reject_non_integer_repeat (l : NumLit) (rest : List Tok) (hs : l.suffix = Gen.repeatSuffix) (hk : l.kind ≠ .int) :
    parseArg (.lit l :: rest) = .error .repeatNotInt := by
  have e1 : Gen.durationSuffixes.contains Gen.repeatSuffix = false := by decide
  simp only [parseArg, hs, e1, beq_self_eq_true, beq_eq_false_iff_ne.2 hk, Bool.false_eq_true, if_false, if_true]

theorem parseKfVals_reject {t : Tok} (rest : List Tok) (hd : t ≠ .kwDefault) (hb : ∀ fs, t ≠ .braces fs) :
    parseKfVals (t :: rest) = .error .badKeyframeValues :=
  parseKfVals.eq_4 _ (fun _ h => hd (List.cons.inj h).1) (fun _ _ h => hb _ (List.cons.inj h).1) nofun

/-- a keyframe position that is not followed by `default` or a braced field list -/
theorem reject_keyframe_without_braces (t : Tok) (rest : List Tok) (hd : t ≠ .kwDefault) (hb : ∀ fs, t ≠ .braces fs) :
    parseArg (.kwFrom :: t :: rest) = .error .badKeyframeValues ∧ parseArg (.kwTo :: t :: rest) = .error .badKeyframeValues := by
  simp only [parseArg, parseKfVals_reject rest hd hb, Except.map, and_self]

/-- `after`/`for` followed by a number without a time unit: parsed, but the expansion is refused -/
theorem reject_missing_unit (l : NumLit) (hs : ∀ m, Gen.secondsMultipliers.find? (·.1 == l.suffix) ≠ some m)
    (c : TlCfgM) (hc : c.duration = some l ∨ c.delay = some l) :
    ∃ e, expandCfg (α := ℚ) c = .error e := by
  have hsec : optSeconds (α := ℚ) (some l) = .error .badSecondsSuffix := by
    simp only [optSeconds, secondsOf, secondsMultiplier, Option.eq_none_iff_forall_ne_some.2 hs]
    rfl
  unfold expandCfg
  rcases hc with hc | hc <;> rw [hc, hsec]
  · exact ⟨_, rfl⟩
  · cases optSeconds (α := ℚ) c.duration <;> exact ⟨_, rfl⟩

/-- an error in any argument rejects the whole configuration (no argument is silently skipped) -/
theorem reject_propagates (toks : List Tok) (fuel : Nat) (e : MacroErr) (hne : toks ≠ []) (hc : ∀ r, toks ≠ .comma :: r)
    (h : parseArg toks = .error e) : parseArgs (fuel + 1) toks = .error e := by
  rw [parseArgs.eq_4 _ _ hne hc, h]

end C15
