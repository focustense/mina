import MinaProofs.Lemmas.Bounding
import MinaProofs.Props.C03
import MinaProofs.Props.C13
import MinaProofs.Props.C14
/-!
# C20 — Valid configurations never panic or produce non-finite values

The model returns `Except Panic _` at every point where the Rust code can panic (checked integer
conversion, `Duration::from_secs_f32`, `Duration +=`); the `u32` addition of the unrepaired code is gone
(fix f18722c). Theorems: where each of those is `.ok`.

What a theorem about the model cannot exhibit: optimiser- or target-dependent float behaviour (FMA
contraction, x87) and the debug-vs-release difference itself — those are covered by running every suite
against both build profiles and requiring identical output (correspondence part of this check).
-/
namespace C20

section generic
variable {α : Type} [Num α]

def isNum : Val α → Prop
  | .num _ => True
  | .int _ _ => False

/-- float interpolation cannot panic -/
theorem interpolate_num_ok (a b : Frame α) (t : α) (ha : isNum a.value) (hb : isNum b.value) :
    ∃ v, interpolate a b t = .ok v ∧ isNum v := by
  rcases interpolate_cases a b t with h | ⟨x, h⟩
  · exact ⟨_, h, ha⟩
  · rw [h]
    cases hav : a.value with
    | int k n => exact (hav ▸ ha).elim
    | num x =>
      cases hbv : b.value with
      | int k n => exact (hbv ▸ hb).elim
      | num y => exact ⟨_, rfl, trivial⟩

/-- a float-valued property never panics in `value_at`, whatever the position, hint and override flag -/
theorem valueAt_num_ok (s : SubTl α) (t : α) (idx : Nat) (ovr : Bool)
    (hf : ∀ f ∈ s.frames, isNum f.value) (ho : ∀ f, s.startOverride = some f → isNum f.value) :
    s.valueAt t idx ovr = none ∨ ∃ v, s.valueAt t idx ovr = some (.ok v) ∧ isNum v := by
  cases h : s.valueAt t idx ovr with
  | none => exact Or.inl rfl
  | some r =>
    obtain ⟨a, b, hb, rfl⟩ := valueAt_eq_some h
    obtain ⟨ha, hb⟩ := boundingFrames_mem hb
    obtain ⟨v, hv, hn⟩ := interpolate_num_ok a b (clamp01 t) (ha.elim (hf a) (ho a)) (hb.elim (hf b) (ho b))
    exact Or.inr ⟨v, by rw [hv], hn⟩

/-- hence evaluating a timeline whose animated properties are all float-valued never panics -/
theorem update_never_panics_float (tl : Timeline α) (tgt : List (Val α)) (time : α)
    (h : ∀ p ∈ tl.subs, (∀ f ∈ p.2.frames, isNum f.value) ∧ (∀ f, p.2.startOverride = some f → isNum f.value)) :
    ∃ r, tl.update tgt time = .ok r := by
  fun_cases Timeline.update tl tgt time with
  | case1 => exact ⟨tgt, rfl⟩
  | case2 t idx ovr _ =>
    generalize tl.subs = subs at h
    fun_induction applySubs subs t idx ovr tgt with
    | case1 tgt => exact ⟨tgt, rfl⟩
    | case2 tgt i s rest hv ih | case3 tgt i s rest v hv ih => exact ih (List.forall_mem_cons.1 h).2
    | case4 tgt i s rest p hv =>
      obtain ⟨hf, ho⟩ := h _ List.mem_cons_self
      rcases valueAt_num_ok s t idx ovr hf ho with hn | ⟨v, hv', _⟩
      · cases hn.symm.trans hv
      · cases hv'.symm.trans hv

end generic

/-- integer properties: inside a segment, with a non-overshooting built-in easing and both end values
inside the type's range, the checked conversion succeeds (and the result lies between the end values) -/
theorem segment_int_ok (k : Gen.IntKind) (m n : Int) (e : Gen.EasingId) (hb : C13.isBack e = false)
    (ft gt s : ℚ) (hlt : ft < gt) (h1 : ft ≤ s) (h2 : s ≤ gt)
    (hm : k.lo ≤ m ∧ m ≤ k.hi) (hn : k.lo ≤ n ∧ n ≤ k.hi) :
    ∃ r, interpolate (⟨ft, .int k m, .builtin e⟩ : Frame ℚ) ⟨gt, .int k n, .builtin e⟩ s = .ok (.int k r) ∧
      min m n ≤ r ∧ r ≤ max m n := by
  have hx0 : 0 ≤ (s - ft) / (gt - ft) := div_nonneg (sub_nonneg.2 h1) (sub_pos.2 hlt).le
  have hx1 : (s - ft) / (gt - ft) ≤ 1 := (div_le_one (sub_pos.2 hlt)).2 (sub_le_sub_right h2 ft)
  obtain ⟨he0, he1⟩ := C13.ease_in_unit e hb _ hx0 hx1
  obtain ⟨r, hr, hlo, hhi⟩ := C14.lerpInt_between k m n _ he0 he1 hm hn
  refine ⟨r, ?_, hlo, hhi⟩
  rw [interpolate_of_ne hlt.ne, C14.val_lerp_int, hr]; rfl

/-- `advance(dt)` with a non-negative finite `dt` converts without panic (until the clock would pass
`u64::MAX` seconds) -/
theorem advance_conversion_ok (q : ℚ) (h0 : 0 ≤ q) (hbig : q * 1000000000 < 2 ^ 64 * 1000000000 - 1) :
    ∃ ns, (Num.nanosOfSecs q : Except Panic Nat) = .ok ns := by
  have hle : rneInt (q * 1000000000) ≤ 2 ^ 64 * 1000000000 - 1 := rneInt_le (by exact_mod_cast hbig.le)
  simp only [nanosOfSecs_rat, RatNum.nanosOfSecs, if_neg (not_lt.2 h0), roundEven_eq_rneInt]
  rw [if_neg (by omega)]
  exact ⟨_, rfl⟩

/-- every repeat count — including 0 and the largest `u32` — has a well-defined total duration and a
position in [0,1] at every time (C03, no restriction on the count) -/
theorem any_repeat_count (ts : TimeScale ℚ) (hd : 0 < ts.duration) (t : ℚ) :
    0 ≤ (ts.position t).value ∧ (ts.position t).value ≤ 1 := C03.pos_in_unit ts hd t

def finiteBits (x : Float32) : Bool := F32.isFiniteBits x

/-- `get_duration` is finite and `get_position` yields a finite position for the boundary repeat counts
0, 1, 2²⁴±1, 2³¹, 2³²−2 and 2³²−1 (the last one panicked / wrapped before fix f18722c) -/
theorem boundary_repeat_counts_f32 :
    ([0, 1, 16777215, 16777217, 2147483648, 4294967294, 4294967295] : List Nat).all (fun n =>
      let ts : TimeScale Float32 := ⟨lit 1, lit 2, .times n, false⟩
      (match ts.totalDuration with | some d => finiteBits d | none => false) &&
      (match ts.position (lit 5) with | .active t _ _ => finiteBits t | .ended t => finiteBits t | .notStarted => true)) = true := by
  decide +kernel

end C20
