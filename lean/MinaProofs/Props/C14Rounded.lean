import MinaProofs.Lemmas.Rounded
/-!
# C14 under every faithful rounding: the endpoint laws are exact

`lerp(a,b,0) = a` and `lerp(a,b,1) = b` hold *exactly* — not merely in exact arithmetic — for the form
`a·(1−x) + b·x` the code uses, under any arithmetic that rounds each operation faithfully, as long as the
endpoints themselves are representable (the property's own hypothesis "values exactly representable in f32").
The alternative form `a + x·(b−a)` would not have the second law.  Integer types follow through the checked
conversion.  (`lerp(a,a,x) = a` is *not* among them: it fails by one rounding in binary32 — finding F-C14.)
-/

namespace C14
variable {ρ : ℚ → ℚ}

/-- `lerp(a,b,x) = a` whenever `x` is (a value equal to) zero -/
theorem lerp_at_zero_any_rounding (F : Faithful ρ) (a b x : Rd ρ) (ha : a.Rep) (hx : x.val = 0) :
    lerp a b x = a := by
  apply Rd.ext'
  -- `b·0` and `1 - 0` are exact, which leaves `ρ (ρ a)`
  simpa [Rd.Rep, lerp, hx, F.one, F.zero, F.idem] using ha

/-- `lerp(a,b,x) = b` whenever `x` is (a value equal to) one -/
theorem lerp_at_one_any_rounding (F : Faithful ρ) (a b x : Rd ρ) (hb : b.Rep) (hx : x.val = 1) :
    lerp a b x = b := by
  apply Rd.ext'
  simpa [Rd.Rep, lerp, hx, F.one, F.zero, F.idem] using hb

/-- an integer whose magnitude is representable converts exactly (`iN as f32`) -/
theorem ofInt_val (i : Int) (h : ρ (i.natAbs : ℚ) = (i.natAbs : ℚ)) : (Num.ofInt i : Rd ρ).val = (i : ℚ) := by
  cases i with
  | ofNat n => exact h
  | negSucc n => exact (congrArg Neg.neg h).trans (Int.cast_negSucc n).symm

theorem rho_int (F : Faithful ρ) (i : Int) (h : ρ (i.natAbs : ℚ) = (i.natAbs : ℚ)) : ρ (i : ℚ) = (i : ℚ) := by
  rcases Int.natAbs_eq i with e | e
  · rw [e, Int.cast_natCast]; exact h
  · rw [e, Int.cast_neg, Int.cast_natCast, F.odd, h]

/-- a representable integer stays representable under the sign -/
theorem ofInt_rep (F : Faithful ρ) (i : Int) (h : ρ (i.natAbs : ℚ) = (i.natAbs : ℚ)) : (Num.ofInt i : Rd ρ).Rep := by
  rw [Rd.Rep, ofInt_val i h, rho_int F i h]

theorem round_ofInt (i : Int) (h : ρ (i.natAbs : ℚ) = (i.natAbs : ℚ)) (hi : ρ (i : ℚ) = (i : ℚ)) :
    Num.toInt? (Num.round (Num.ofInt i : Rd ρ)) = some i := by
  rw [Rd.toInt_eq, Rd.round_val, ofInt_val i h, round_eq_roundInt, roundInt_intCast, hi, toInt_intCast]

theorem lerpInt_of_lerp_eq (F : Faithful ρ) {k : Gen.IntKind} {a b c : Int} {x : Rd ρ}
    (hc : ρ (c.natAbs : ℚ) = (c.natAbs : ℚ)) (hr : k.lo ≤ c ∧ c ≤ k.hi)
    (e : lerp (Num.ofInt a : Rd ρ) (Num.ofInt b) x = Num.ofInt c) : lerpInt k a b x = .ok c := by
  unfold lerpInt
  simp only [e, round_ofInt c hc (rho_int F c hc), hr, and_self, if_true]

/-- integer `lerp(a,b,0) = a`, exactly and without panic, for every integer kind, when `a` is in the kind's range and
its magnitude is representable (for binary32: `|a| ≤ 2^24`, or any other exactly representable integer) -/
theorem lerpInt_at_zero_any_rounding (F : Faithful ρ) (k : Gen.IntKind) (a b : Int) (x : Rd ρ) (hx : x.val = 0)
    (ha : ρ (a.natAbs : ℚ) = (a.natAbs : ℚ)) (hr : k.lo ≤ a ∧ a ≤ k.hi) :
    lerpInt k a b x = .ok a :=
  lerpInt_of_lerp_eq F ha hr (lerp_at_zero_any_rounding F _ _ _ (ofInt_rep F a ha) hx)

/-- integer `lerp(a,b,1) = b`, exactly and without panic -/
theorem lerpInt_at_one_any_rounding (F : Faithful ρ) (k : Gen.IntKind) (a b : Int) (x : Rd ρ) (hx : x.val = 1)
    (hb : ρ (b.natAbs : ℚ) = (b.natAbs : ℚ)) (hr : k.lo ≤ b ∧ b ≤ k.hi) :
    lerpInt k a b x = .ok b :=
  lerpInt_of_lerp_eq F hb hr (lerp_at_one_any_rounding F _ _ _ (ofInt_rep F b hb) hx)

/-- the hypotheses are satisfiable at a non-trivial instance: exact arithmetic, `i8` full range -/
example : lerpInt Gen.IntKind.i8 (-128) 127 (⟨1⟩ : Rd (fun x => x)) = .ok 127 :=
  lerpInt_at_one_any_rounding Faithful.id Gen.IntKind.i8 (-128) 127 _ rfl rfl (by decide)

end C14
