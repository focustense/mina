import MinaProofs.Lemmas.Prepare
import MinaProofs.Lemmas.AtFrame
import MinaProofs.Props.C01
/-!
# C10 — A substituted start value only affects the first forward pass

Model: `start_with` = `Timeline.startWith` / `SubTl.overrideStart`; `prepare_frame` enables the
override only while the position is `NotStarted` or `Active` on the first forward pass.

Proved in full generality: the twin identity whenever the override is disabled (reverse pass, later
cycles, after the end) — generic in the number system; the characterisation of when it is disabled;
that beyond the first segment the value does not depend on the substituted value even when enabled.
Proved under the explicit hypothesis that no other keyframe defines the property at 0 %
(`hnodup`, as a statement about the frames; `no_dup_at_zero` derives it from distinct positions) and for
endpoint-fixing easings: up to the delay the value is exactly `v`. The full statement without that hypothesis is
false of the code (two 0 % keyframes for one property): `start_value_refuted_dup_zero` (known finding F-C10).
-/
namespace C10
open Spec

section generic
variable {α : Type} [Num α]

/-- during a reverse pass, in every later cycle and after the end (= whenever `prepare_frame` disables the
override) a timeline and its `start_with` twin produce identical results -/
theorem twin_when_override_disabled (tl : Timeline α) (v tgt : List (Val α)) (time : α)
    (t : α) (idx : Nat) (hp : prepareFrame tl.ts tl.boundary time = some (t, idx, false)) :
    (tl.startWith v).update tgt time = tl.update tgt time := by
  unfold Timeline.update
  have : prepareFrame (tl.startWith v).ts (tl.startWith v).boundary time = some (t, idx, false) := hp
  rw [this, hp]
  simp only [Timeline.startWith]
  generalize tl.subs = subs
  induction subs generalizing tgt with
  | nil => rfl
  | cons p rest ih =>
    obtain ⟨i, s⟩ := p
    -- the head evaluates alike with the override off, the tails agree by induction: both sides become the same `match`
    simp only [List.map_cons]
    cases v[i]? with
    | none => simp only [applySubs, ih]
    | some w => simp only [applySubs, overrideStart_valueAt_false, ih]

end generic

/-- when the override is disabled, stated on positions -/
theorem override_disabled_phases (p : Pos ℚ) :
    (posOvr p).2 = false ↔ (∃ t rep rev, p = .active t rep rev ∧ (rep = true ∨ rev = true)) ∨ (∃ t, p = .ended t) := by
  cases p with
  | notStarted => simp [posOvr]
  | active t rep rev => cases rep <;> cases rev <;> simp [posOvr]
  | ended t => simp [posOvr]

/-- even while the override is enabled, `v` only influences the stretch from 0 % to the property's next
frame: on every later segment the value is that of the un-substituted twin -/
theorem only_first_segment (ks : List (PKeyframe ℚ)) (hok : KfOK ks) (d : Val ℚ) (e0 : Easing)
    (hdata : cssReals ks e0 ≠ []) (v : Val ℚ) (s : ℚ) (hs0 : 0 ≤ s) (hs1 : s ≤ 1)
    (idx : Nat) (hidx : HintOK ks s idx)
    (m : Nat) (hm : 1 ≤ m) (f g : Frame ℚ) (hf : (cssFrames ks d e0)[m]? = some f) (hg : (cssFrames ks d e0)[m + 1]? = some g)
    (hlt : f.time < s) (hgt : s < g.time) :
    (builtSub ks d e0 (some v)).valueAt s idx true = (builtSub ks d e0 none).valueAt s idx true := by
  rw [C01.interpolation ks hok d e0 hdata (some v) true s hs0 hs1 idx hidx m f g hf hg hlt hgt,
      C01.interpolation ks hok d e0 hdata none true s hs0 hs1 idx hidx m f g hf hg hlt hgt]
  rw [gFrame_of_pos _ hm, gFrame_of_pos _ hm]

/-- up to the delay (position 0 %, override enabled) the value is exactly the substituted `v` — provided
no second keyframe defines the property at 0 % (the frame after frame 0 is at a positive position) -/
theorem start_value_until_delay (ks : List (PKeyframe ℚ)) (hok : KfOK ks) (d : Val ℚ) (e0 : Easing)
    (hdata : cssReals ks e0 ≠ []) (v : Val ℚ) (idx : Nat) (hidx : HintOK ks 0 idx)
    (S : Val ℚ → Prop) (hS : Lerpable S)
    (hSf : ∀ f ∈ (builtSub ks d e0 (some v)).frames, S f.value ∧ FixesEnds f.easing) (hSv : S v)
    (hnodup : ∀ f1, (cssFrames ks d e0)[1]? = some f1 → 0 < f1.time) :
    (builtSub ks d e0 (some v)).valueAt 0 idx true = some (.ok v) := by
  obtain ⟨hfr, _⟩ := builtSub_frames ks d e0 (some v)
  obtain ⟨f0, hf0⟩ : ∃ f0, (builtSub ks d e0 (some v)).frames[0]? = some f0 :=
    ⟨_, List.getElem?_eq_getElem (List.length_pos_of_ne_nil (hfr ▸ fromKeyframes_frames_ne_nil d hdata))⟩
  obtain ⟨j, fj, hj, hjt, hval⟩ := valueAt_at_frame hok hdata true le_rfl zero_le_one hidx hS hSf
    (by rintro w ⟨rfl⟩; exact hSv) hf0 (builtSub_head_time hok hf0)
  cases j with
  | zero =>
    -- frame 0, which the lookup sees as the override frame, whose value is v
    rw [hval]
    simp [gFrame, builtSub_startOverride_iff.2 ⟨v, fj, rfl, hj, rfl⟩]
  | succ j =>
    -- a later frame cannot sit at 0: frames are sorted and frame 1 is at a positive position
    obtain ⟨f1, hf1⟩ : ∃ f1, (builtSub ks d e0 (some v)).frames[1]? = some f1 :=
      ⟨_, List.getElem?_eq_getElem (by have := (List.getElem?_eq_some_iff.1 hj).1; omega)⟩
    have hpos := hnodup f1 (by rw [← frames_eq_css ks hok d e0, ← hfr]; exact hf1)
    exact (not_le.2 hpos (hjt ▸ builtSub_mono hok hf1 hj (Nat.succ_pos j))).elim

/-- The full statement ("for all timelines") is false of the code: with two 0 % keyframes defining the
property (values 10 and 20), `start_with(5)` and a time before the delay produce 20, not 5. -/
theorem start_value_refuted_dup_zero :
    let ks : List (PKeyframe ℚ) := [⟨0, some (.num 10), none⟩, ⟨0, some (.num 20), none⟩, ⟨1, some (.num 30), none⟩]
    (match (builtSub ks (.num 0) Easing.default (some (.num 5))).valueAt 0 (searchIdx (ks.map (·.time)) 0) true with
      | some (.ok (.num x)) => decide (x = 20)
      | _ => false) = true := by
  decide +kernel

end C10
