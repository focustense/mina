import MinaProofs.Props.C04
/-!
# C06 — Animation is frame-rate independent: only total elapsed time matters

The animator keeps the time in state as whole nanoseconds (`std::time::Duration`) and recomputes the
values from that absolute time on every `advance`; nothing is accumulated in floating point.
Generic in the number system except `nanos_additive` (ℚ).
-/
namespace C06

variable {α : Type} [Num α]
open Animator

/-- `advance(0)` changes nothing at all (whole record), in any reachable (`Good`) animator -/
theorem advance_zero (P : List (Val α) → Prop) (a : Animator α) (hg : C04.Good P a) (hclock : a.stateNs < durationMaxNs) :
    a.advanceNs 0 = .ok a :=
  advanceNs_eq_ok.2 ⟨hclock, updateValues_eq_self.2 hg.inv.current⟩

/-- two advances move the clock exactly like one advance by the sum (and never touch state or pause) -/
theorem advance_clock_add (a a1 a2 a12 : Animator α) (m n : Nat)
    (h1 : a.advanceNs m = .ok a1) (h2 : a1.advanceNs n = .ok a2) (h12 : a.advanceNs (m + n) = .ok a12) :
    a2.stateNs = a12.stateNs ∧ a2.state = a12.state ∧ a2.paused = a12.paused ∧ a2.timelines = a12.timelines := by
  obtain ⟨v1, rfl⟩ := advanceNs_shape h1
  obtain ⟨v2, rfl⟩ := advanceNs_shape h2
  obtain ⟨v12, rfl⟩ := advanceNs_shape h12
  exact ⟨Nat.add_assoc _ _ _, rfl, rfl, rfl⟩

/-- the set of slots a timeline writes does not depend on the time (true of built timelines: a
sub-timeline with data produces a value at every position, C01's lookup theorem) -/
def StableWrites (m : Merged α) : Prop :=
  ∀ t t' W W', C12.mergedWrites m.timelines t = .ok W → C12.mergedWrites m.timelines t' = .ok W' →
    ∀ k, lastWrite W' k = none → lastWrite W k = none

theorem StableWrites.update_update {m : Merged α} (hst : StableWrites m) {tgt r : List (Val α)} {t t' : α}
    (h : m.update tgt t = .ok r) : m.update r t' = m.update tgt t' := by
  obtain ⟨tls⟩ := m
  obtain ⟨W, hW, rfl⟩ := C12.merged_update_ok_iff.1 h
  rw [C12.merged_update_eq_writes, C12.merged_update_eq_writes]
  cases hW' : C12.mergedWrites tls t' with
  | error e => rfl
  | ok W' => exact congrArg Except.ok (applyWrites_absorb W W' tgt (hst t t' W W' hW hW'))

/-- after `advance(m)`, `advance(n)` is `advance(m + n)` from the start as a function, panics included -/
theorem advanceNs_add {a a1 : Animator α} {m : Nat} (hst : ∀ tl, a.timeline? a.state = some tl → StableWrites tl)
    (h1 : a.advanceNs m = .ok a1) (n : Nat) : a1.advanceNs n = a.advanceNs (m + n) := by
  cases htl : a.timeline? a.state with
  | none =>
    cases advanceNs_of_none h1 htl
    simp only [advanceNs, Nat.add_assoc]
  | some tl =>
    have hv := advanceNs_values h1 htl
    obtain ⟨v1, rfl⟩ := advanceNs_shape h1
    simp only [advanceNs, updateValues, timeline?_mk, Nat.add_assoc, htl, (hst tl htl).update_update hv]

/-- **advance(a) then advance(b) = advance(a+b)**: identical values (whole record), because the values
are recomputed from the absolute time and the intermediate frame is completely overwritten -/
theorem advance_add (a a1 a2 a12 : Animator α) (m n : Nat)
    (hst : ∀ tl, a.timeline? a.state = some tl → StableWrites tl)
    (h1 : a.advanceNs m = .ok a1) (h2 : a1.advanceNs n = .ok a2) (h12 : a.advanceNs (m + n) = .ok a12) :
    a2 = a12 :=
  Except.ok.inj (h2.symm.trans ((advanceNs_add hst h1 n).trans h12))

/-- inserting a zero-length advance anywhere in a history changes nothing -/
theorem insert_zero_advance (P : List (Val α) → Prop) (a b : Animator α) (ops1 ops2 : List (AnimOp α)) (hg : C04.Good P a)
    (h1 : a.run ops1 = .ok b) (hclock : b.stateNs < durationMaxNs) :
    a.run (ops1 ++ [AnimOp.advanceNs 0] ++ ops2) = a.run (ops1 ++ ops2) := by
  rw [List.append_assoc, run_append h1, run_append h1]
  simp only [List.singleton_append, Animator.run, Animator.step, advance_zero P b (C04.good_run P a b ops1 hg h1) hclock]

/-- whole nanoseconds add exactly: for step sizes that are exact multiples of 1 ns the clock after
`advance(x); advance(y)` equals the clock after `advance(x+y)` -/
theorem nanos_additive (x y : Nat) :
    (Num.nanosOfSecs ((x : ℚ) / 1000000000) : Except Panic Nat) = (if x ≥ 2 ^ 64 * 1000000000 then .error .durationOverflow else .ok x) ∧
    ((x : ℚ) / 1000000000 + (y : ℚ) / 1000000000 = ((x + y : Nat) : ℚ) / 1000000000) := by
  constructor
  · have hnn : ¬ ((x : ℚ) / 1000000000 < 0) := not_lt.2 (by positivity)
    have hx : rneInt ((x : ℚ) / 1000000000 * 1000000000) = (x : ℤ) := by
      rw [div_mul_cancel₀ _ (by norm_num), ← Int.cast_natCast, rneInt_intCast]
    simp only [nanosOfSecs_rat, RatNum.nanosOfSecs, if_neg hnn, roundEven_eq_rneInt, hx, Int.toNat_natCast]
  · push_cast; ring

end C06
