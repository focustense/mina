import MinaProofs.Lemmas.RatNum
import MinaModel.SubTimeline
/-!
# `get_bounding_frames` / `value_at` on an arbitrary sub-timeline

Generic in the number type: the frames `value_at` interpolates between are frames of the sub-timeline or its start
override (`boundingFrames_mem`, `valueAt_eq_some`), so whatever it returns is built by `lerp` from their values
(`valueAt_closed`). At ℚ: `gFrame` (a frame as the lookup sees it), `Bracketed` (what the lookup theorem concludes) and
`bracketed_of_index`, the lookup in terms of frame indices, for any sub-timeline whose override is frame 0 re-valued
(`OvrOK`).
-/

section generic
variable {α : Type} [Num α]

omit [Num α] in
theorem getFrame_mem {s : SubTl α} {i : Nat} {ovr : Bool} {f : Frame α} (h : s.getFrame i ovr = some f) :
    f ∈ s.frames ∨ s.startOverride = some f := by
  revert h
  fun_cases SubTl.getFrame s i ovr with
  | case1 _ f' hf => exact fun h => .inr (h ▸ hf)
  | case2 | case3 => exact fun h => .inl (List.mem_of_getElem? h)

theorem boundingFrames_mem {s : SubTl α} {t : α} {hint : Nat} {ovr : Bool} {a b : Frame α}
    (h : s.boundingFrames t hint ovr = some (a, b)) :
    (a ∈ s.frames ∨ s.startOverride = some a) ∧ (b ∈ s.frames ∨ s.startOverride = some b) := by
  revert h
  fun_cases SubTl.boundingFrames s t hint ovr <;> intro h <;> cases h
  -- the three arms that return a pair: stepped back, the last frame twice, the frame and its successor
  · exact ⟨getFrame_mem ‹_›, getFrame_mem ‹_›⟩
  · exact ⟨getFrame_mem ‹_›, getFrame_mem ‹_›⟩
  · exact ⟨getFrame_mem ‹_›, Or.inl (List.mem_of_getElem? ‹_›)⟩

/-- `value_at` is the interpolation between the bounding frames; its own test for an empty index map decides nothing,
`get_bounding_frames` finds no entry in that case -/
theorem valueAt_eq (s : SubTl α) (t : α) (hint : Nat) (ovr : Bool) :
    s.valueAt t hint ovr =
      (s.boundingFrames (clamp01 t) hint ovr).map fun ab => interpolate ab.1 ab.2 (clamp01 t) := by
  unfold SubTl.valueAt
  split
  next h => rw [SubTl.boundingFrames, List.isEmpty_iff.1 h]; rfl
  next =>
    dsimp only
    cases s.boundingFrames (clamp01 t) hint ovr <;> rfl

theorem valueAt_eq_some {s : SubTl α} {t : α} {hint : Nat} {ovr : Bool} {r : Except Panic (Val α)}
    (h : s.valueAt t hint ovr = some r) :
    ∃ a b, s.boundingFrames (clamp01 t) hint ovr = some (a, b) ∧ r = interpolate a b (clamp01 t) := by
  rw [valueAt_eq] at h
  obtain ⟨⟨a, b⟩, hb, rfl⟩ := Option.map_eq_some_iff.1 h
  exact ⟨a, b, hb, rfl⟩

theorem interpolate_cases (a b : Frame α) (t : α) :
    interpolate a b t = .ok a.value ∨ ∃ x, interpolate a b t = a.value.lerp b.value x := by
  fun_cases interpolate a b t
  · exact .inl rfl
  · exact .inr ⟨_, rfl⟩

theorem valueAt_closed {K : Val α → Prop} (hK : ∀ a b x r, K a → K b → a.lerp b x = .ok r → K r)
    {s : SubTl α} {t : α} {idx : Nat} {ovr : Bool}
    (hf : ∀ f ∈ s.frames, K f.value) (ho : ∀ f, s.startOverride = some f → K f.value)
    {v : Val α} (hv : s.valueAt t idx ovr = some (.ok v)) : K v := by
  obtain ⟨a, b, hb, hr⟩ := valueAt_eq_some hv
  obtain ⟨ha, hb⟩ := boundingFrames_mem hb
  have hKa : K a.value := ha.elim (hf a) (ho a)
  rcases interpolate_cases a b (clamp01 t) with h | ⟨x, h⟩ <;> rw [h] at hr
  · cases hr; exact hKa
  · exact hK _ _ _ _ hKa (hb.elim (hf b) (ho b)) hr.symm

end generic

/-- frame `m` as the lookup sees it: frame 0 is replaced by the override when enabled -/
def gFrame (sub : SubTl ℚ) (m : Nat) (ovr : Bool) (raw : Frame ℚ) : Frame ℚ :=
  if ovr && m == 0 then (match sub.startOverride with | some f => f | none => raw) else raw

/-- `res` is what `value_at` owes at position `s`: the interpolation between two adjacent frames that bracket `s`
(`seg`), or the value of the last frame when `s` is at or after it (`last`) — frame 0 seen through the override -/
inductive Bracketed (sub : SubTl ℚ) (s : ℚ) (ovr : Bool) (res : Option (Except Panic (Val ℚ))) : Prop
  | seg (m : Nat) (f g : Frame ℚ) (hf : sub.frames[m]? = some f) (hg : sub.frames[m + 1]? = some g)
      (h1 : f.time ≤ s) (h2 : s ≤ g.time) (hr : res = some (interpolate (gFrame sub m ovr f) g s))
  | last (m : Nat) (f : Frame ℚ) (hf : sub.frames[m]? = some f) (hl : m + 1 = sub.frames.length)
      (h1 : f.time ≤ s) (hr : res = some (.ok (gFrame sub m ovr f).value))

theorem getFrame_eq {sub : SubTl ℚ} {m : Nat} (ovr : Bool) {raw : Frame ℚ} (h : sub.frames[m]? = some raw) :
    sub.getFrame m ovr = some (gFrame sub m ovr raw) := by
  fun_cases SubTl.getFrame sub m ovr with
  | case1 hc f hf => rw [gFrame, if_pos hc, hf]
  | case2 hc hf =>
    cases (by simpa using hc : ovr = true ∧ m = 0).2
    rw [gFrame, if_pos hc, hf]; exact h
  | case3 hc => rw [gFrame, if_neg hc]; exact h

theorem gFrame_cases (sub : SubTl ℚ) (m : Nat) (ovr : Bool) (raw : Frame ℚ) :
    gFrame sub m ovr raw = raw ∨ (m = 0 ∧ sub.startOverride = some (gFrame sub m ovr raw)) := by
  fun_cases gFrame sub m ovr raw with
  | case1 hc fo ho => exact .inr ⟨(by simpa using hc : ovr = true ∧ m = 0).2, ho⟩
  | case2 | case3 => exact .inl rfl

theorem gFrame_of_pos (sub : SubTl ℚ) {m : Nat} (hm : 0 < m) (ovr : Bool) (raw : Frame ℚ) :
    gFrame sub m ovr raw = raw :=
  (gFrame_cases sub m ovr raw).resolve_right fun h => hm.ne' h.1

/-- the start override, if there is one, is frame 0 with another value: what `override_start_value` leaves behind,
whether or not an override was there before -/
def OvrOK (sub : SubTl ℚ) : Prop :=
  ∀ fo, sub.startOverride = some fo → ∃ f0, sub.frames[0]? = some f0 ∧ fo.time = f0.time ∧ fo.easing = f0.easing

theorem gFrame_time_easing {sub : SubTl ℚ} (hov : OvrOK sub) {m : Nat} (ovr : Bool) {raw : Frame ℚ}
    (h : sub.frames[m]? = some raw) :
    (gFrame sub m ovr raw).time = raw.time ∧ (gFrame sub m ovr raw).easing = raw.easing := by
  rcases gFrame_cases sub m ovr raw with hg | ⟨rfl, ho⟩
  · rw [hg]; exact ⟨rfl, rfl⟩
  · obtain ⟨f0, hf0, ht, he⟩ := hov _ ho
    rw [h] at hf0; cases hf0
    exact ⟨ht, he⟩

theorem clamp01_id {s : ℚ} (h0 : 0 ≤ s) (h1 : s ≤ 1) : clamp01 s = s := by
  unfold clamp01; simp only [lit_rat, Nat.cast_zero, Nat.cast_one]
  rw [if_neg (not_lt.2 h0), if_neg (not_lt.2 h1)]

theorem interpolate_of_eq {a b : Frame ℚ} (h : a.time = b.time) (s : ℚ) : interpolate a b s = .ok a.value := by
  simp [interpolate, h]

theorem interpolate_of_ne {a b : Frame ℚ} (h : a.time ≠ b.time) (s : ℚ) :
    interpolate a b s = a.value.lerp b.value (a.easing.calc ((s - a.time) / (b.time - a.time))) := by
  have : ¬ ((b.time - a.time == lit 0) = true) := by
    simp only [lit_rat, Nat.cast_zero, beq_iff_eq, sub_eq_zero]; exact fun h' => h h'.symm
  unfold interpolate
  rw [if_neg this]

/-- **the lookup on any sub-timeline.** The result is bracketed at frame `m`, which is at or before `s`, if the hint
resolves to `m` and the next frame, if any, is not before `s` — or if it resolves to `m + 1` with `s` strictly before
that frame, the case `get_bounding_frames` steps back from. -/
theorem bracketed_of_index {sub : SubTl ℚ} (hov : OvrOK sub) {s : ℚ} (hs0 : 0 ≤ s) (hs1 : s ≤ 1) {idx i m : Nat}
    (ovr : Bool) {f : Frame ℚ} (him : sub.indexMap[idx]? = some i) (hf : sub.frames[m]? = some f) (h1 : f.time ≤ s)
    (hi : (i = m ∧ ∀ g, sub.frames[m + 1]? = some g → s ≤ g.time) ∨
      ∃ g, i = m + 1 ∧ sub.frames[m + 1]? = some g ∧ s < g.time) :
    Bracketed sub s ovr (sub.valueAt s idx ovr) := by
  have hfa := getFrame_eq ovr hf
  have hm : m < sub.frames.length := (List.getElem?_eq_some_iff.1 hf).1
  simp only [valueAt_eq, clamp01_id hs0 hs1, SubTl.boundingFrames, him]
  rcases hi with ⟨rfl, h2⟩ | ⟨g, rfl, hg, hlt⟩
  · -- resolves to `m`: no step back (the override keeps frame 0's position); `m` is the last frame or has a successor
    have hnlt : ¬ s < (gFrame sub i ovr f).time := by rw [(gFrame_time_easing hov ovr hf).1]; exact not_lt.2 h1
    simp only [hfa, hnlt, if_false]
    by_cases hl : i + 1 = sub.frames.length
    · have : (i == sub.frames.length - 1) = true := beq_iff_eq.2 (by omega)
      simp only [this, if_true, Option.map_some]
      exact .last i f hf hl h1 (by rw [interpolate_of_eq rfl])
    · have : (i == sub.frames.length - 1) = false := beq_eq_false_iff_ne.2 (by omega)
      obtain ⟨g, hg⟩ : ∃ g, sub.frames[i + 1]? = some g := ⟨_, List.getElem?_eq_getElem (by omega)⟩
      simp only [this, Bool.false_eq_true, if_false, hg, Option.map_some]
      exact .seg i f g hf hg h1 (h2 g hg) rfl
  · -- resolves to `m + 1` with `s` before it: the step back
    have hga := getFrame_eq ovr hg
    rw [gFrame_of_pos sub (Nat.succ_pos m)] at hga
    simp only [hga, hlt, if_true, Nat.succ_pos, Nat.add_sub_cancel, hfa, Option.map_some]
    exact .seg m f g hf hg h1 hlt.le rfl
