import MinaProofs.Lemmas.BuiltLike
import MinaProofs.Props.C02
import MinaProofs.Props.C04
import MinaProofs.Props.C08
import MinaProofs.Props.C10
/-!
# Builder-built timelines obey the blend law, slot by slot

Every slot `i` of the animated struct carries a set `K i` of admissible values (all floats; or the kind of
the field animating it). `SlotTimeline n K tl`: `tl` is built, with delay ≥ 0, keyframes at pairwise distinct
positions and endpoint-fixing easings, and its sub-timeline for slot `i` only holds values of `K i`. Such a
timeline maps values of these kinds to values of these kinds (`update_slotVals`), and evaluation at time 0
after `start_with(v)` reproduces `v` (`built_blend`, from `C10.start_value_until_delay`). The class survives
`start_with`, so every merge of such timelines is `C04.TlOK` (`slotMerged_tlOK`). `FloatTimeline.lean` and
`KindTimeline.lean` instantiate `K`.
Arithmetic: exact (ℚ).
-/
open Spec

def SlotVals (n : Nat) (K : Nat → Val ℚ → Prop) (v : List (Val ℚ)) : Prop :=
  v.length = n ∧ ∀ i w, v[i]? = some w → K i w

structure SlotTimeline (n : Nat) (K : Nat → Val ℚ → Prop) (tl : Timeline ℚ) : Prop where
  built : ∃ cfg, BuiltCfg cfg ∧ BuiltLike cfg tl
  delay_nonneg : 0 ≤ tl.ts.delay
  distinct : tl.boundary.Nodup
  slots : ∀ p ∈ tl.subs, p.1 < n ∧ Lerpable (K p.1) ∧ (∀ f ∈ p.2.frames, K p.1 f.value ∧ FixesEnds f.easing) ∧
    ∀ f, p.2.startOverride = some f → K p.1 f.value

variable {n : Nat} {K : Nat → Val ℚ → Prop}

def isBuiltin : Easing → Prop
  | .builtin _ => True
  | .custom _ => False

theorem isBuiltin_fixesEnds {e : Easing} (h : isBuiltin e) : FixesEnds e := by
  cases e with
  | builtin id => exact builtin_fixesEnds id
  | custom n => exact h.elim

theorem builtin_easings_fixesEnds {cfg : Config ℚ}
    (h : isBuiltin cfg.easing ∧ ∀ k ∈ cfg.keyframes, ∀ e, k.easing = some e → isBuiltin e) :
    FixesEnds cfg.easing ∧ ∀ k ∈ cfg.keyframes, ∀ e, k.easing = some e → FixesEnds e :=
  ⟨isBuiltin_fixesEnds h.1, fun k hk e he => isBuiltin_fixesEnds (h.2 k hk e he)⟩

theorem build_slotTimeline {fields : List (AnimField ℚ)} {cfg : Config ℚ} (hc : BuiltCfg cfg) (hdelay : 0 ≤ cfg.delay)
    (hdist : (cfg.keyframes.map (·.time)).Pairwise (· ≠ ·))
    (heas : FixesEnds cfg.easing ∧ ∀ k ∈ cfg.keyframes, ∀ e, k.easing = some e → FixesEnds e)
    (hvals : ∀ k ∈ cfg.keyframes, ∀ p ∈ fields.zipIdx, ∀ x, k.vals.getD p.2 none = some x → K p.1.idx x)
    (hfields : ∀ f ∈ fields, f.idx < n ∧ Lerpable (K f.idx) ∧ K f.idx f.dflt) :
    SlotTimeline n K (Timeline.build fields cfg) := by
  refine ⟨⟨cfg, hc, build_builtLike fields cfg⟩, hdelay, ((sortKfs_perm _).map _).nodup_iff.2 hdist, fun p hp => ?_⟩
  obtain ⟨⟨f, j⟩, hmem, rfl⟩ := List.mem_map.1 hp
  obtain ⟨hlt, hL, hd⟩ := hfields f (List.fst_mem_of_mem_zipIdx hmem)
  refine ⟨hlt, hL, ?_, by simp [fromKeyframes_startOverride]⟩
  refine frames_props (K f.idx) FixesEnds ?_ ?_ heas.1 hd
  · exact List.forall_mem_map.2 fun k hk x hx => hvals k ((mem_sortKfs k _).1 hk) (f, j) hmem x hx
  · exact List.forall_mem_map.2 fun k hk e he => heas.2 k ((mem_sortKfs k _).1 hk) e he

theorem startWith_slotTimeline {tl : Timeline ℚ} {w : List (Val ℚ)} (h : SlotTimeline n K tl)
    (hw : ∀ i x, w[i]? = some x → K i x) : SlotTimeline n K (tl.startWith w) := by
  obtain ⟨cfg, hc, hb⟩ := h.built
  refine ⟨⟨cfg, hc, startWith_builtLike w hb⟩, h.delay_nonneg, h.distinct, fun p hp => ?_⟩
  obtain ⟨s, hmem, hcase⟩ := mem_startWith_subs hp
  obtain ⟨hlt, hL, hf, ho⟩ := h.slots _ hmem
  rcases hcase with ⟨_, hp2⟩ | ⟨x, hx, hp2⟩
  · rw [hp2]; exact ⟨hlt, hL, hf, ho⟩
  · rw [hp2, (C10.overrideStart_frames s x).1]
    refine ⟨hlt, hL, hf, fun f hfo => ?_⟩
    rcases overrideStart_startOverride hfo with hv | hs
    · rw [hv]; exact hw _ x hx
    · exact ho f hs

theorem update_slotVals (hK : ∀ i a b x r, K i a → K i b → a.lerp b x = .ok r → K i r) {tl : Timeline ℚ}
    (h : SlotTimeline n K tl) {v r : List (Val ℚ)} {t : ℚ} (hv : SlotVals n K v) (hr : tl.update v t = .ok r) :
    SlotVals n K r := by
  refine ⟨(C08.update_length tl v r t hr).trans hv.1, fun i w hw => ?_⟩
  rcases update_getElem?_cases hr i with h0 | ⟨t', idx, ovr, s, w', -, hs, hval, hw'⟩
  · exact hv.2 i w (h0 ▸ hw)
  · obtain ⟨-, -, hf, ho⟩ := h.slots _ hs
    cases hw.symm.trans hw'
    exact valueAt_closed (hK i) (fun f hf' => (hf f hf').1) ho hval

theorem built_blend {tl : Timeline ℚ} (hs : SlotTimeline n K tl) {v : List (Val ℚ)} (hv : SlotVals n K v) :
    (tl.startWith v).update v (Num.secsOfNanos 0) = .ok v := by
  obtain ⟨cfg, hc, hb⟩ := hs.built
  unfold Timeline.update
  by_cases hempty : tl.boundary = []
  · simp [Timeline.startWith, prepareFrame, hempty]
  have h0 : (Num.secsOfNanos 0 : ℚ) = 0 := by simp
  -- time 0 is not after the delay: position 0 %, start override enabled
  rw [show (tl.startWith v).boundary = tl.boundary from rfl, show (tl.startWith v).ts = tl.ts from rfl,
    prepareFrame_eq _ hempty, h0,
    C02.zero_percent_until_delay _ (by rw [hb.ts]; exact hc.dur_pos) 0 hs.delay_nonneg]
  -- every sub-timeline has no data or returns the substituted value, which `v` already holds in that slot
  refine applySubs_fix (fun p hp => ?_)
  obtain ⟨hlt, hL, hf, _⟩ := (startWith_slotTimeline hs hv.2).slots p hp
  obtain ⟨s, hmem, hcase⟩ := mem_startWith_subs hp
  obtain ⟨ks, d, ov, hsub, hok, ht⟩ := hb.sub hc hmem
  rcases hcase with ⟨hnone, _⟩ | ⟨x, hx, hp2⟩
  · -- the slot index is below `n = v.length`, so `v` has a value there
    exact absurd (List.getElem?_eq_none_iff.1 hnone) (not_le.2 (by rw [hv.1]; exact hlt))
  dsimp only at hsub
  rw [hp2, hsub, builtSub_overrideStart] at hf ⊢
  by_cases hdata : cssReals ks cfg.easing = []
  · left; rw [builtSub_of_reals_nil d _ hdata]; exact empty_valueAt _ _ _
  · exact Or.inr ⟨x, hx, C10.start_value_until_delay ks hok d cfg.easing hdata x _ (hintOK_of_times hok ht hempty 0)
      (K p.1) hL hf (hv.2 _ x hx) (no_dup_at_zero hok (ht ▸ hs.distinct))⟩

/-- **every merge of such timelines is `TlOK`**: after any sequence of `start_with` calls it obeys the blend law
and keeps the slots in their kinds -/
theorem slotMerged_tlOK (hK : ∀ i a b x r, K i a → K i b → a.lerp b x = .ok r → K i r) {m : Merged ℚ}
    (h : ∀ tl ∈ m.timelines, SlotTimeline n K tl) : C04.TlOK (SlotVals n K) m := by
  refine C04.tlOK_of_closed (fun m => ∀ tl ∈ m.timelines, SlotTimeline n K tl) ?_ ?_ ?_ h
  · exact fun m w hm hw => List.forall_mem_map.2 fun tl htl => startWith_slotTimeline (hm tl htl) hw.2
  · exact fun m hm v hv => C08.merged_update_fix (List.forall_mem_map.2 fun tl htl => built_blend (hm tl htl) hv)
  · intro m v t r hm hv hr
    exact C08.merged_update_keeps _ (fun tl htl v r hv hr => update_slotVals hK (hm tl htl) hv hr) hv hr
