import MinaProofs.Lemmas.SlotTimeline
/-!
# Float-valued built timelines obey the blend law (instance of `C04.TlOK`)

For a timeline built by the builder from a float-only configuration — built-in easings, keyframes at
pairwise distinct positions in [0,1], delay ≥ 0, cycle duration > 0 — evaluation at time 0 after
`start_with(v)` reproduces `v`, after any number of earlier `start_with` calls, and evaluation keeps all
slots float-valued. This discharges the hypothesis of `C04.no_jump_after_any_history` for such animators.
It is `SlotTimeline.lean` with every slot of kind `numS`.
-/

structure FloatCfg (n : Nat) (fields : List (AnimField ℚ)) (cfg : Config ℚ) : Prop where
  delay_nonneg : 0 ≤ cfg.delay
  dur_pos : 0 < cfg.duration
  pos_unit : ∀ k ∈ cfg.keyframes, 0 ≤ k.time ∧ k.time ≤ 1
  distinct : (cfg.keyframes.map (·.time)).Pairwise (· ≠ ·)
  vals_num : ∀ k ∈ cfg.keyframes, ∀ o ∈ k.vals, ∀ x, o = some x → numS x
  easings : isBuiltin cfg.easing ∧ ∀ k ∈ cfg.keyframes, ∀ e, k.easing = some e → isBuiltin e
  dflt_num : ∀ f ∈ fields, numS f.dflt
  idx_lt : ∀ f ∈ fields, f.idx < n
  idx_nodup : (fields.map (·.idx)).Nodup

/-- values the animator can hold: `n` slots, all floats -/
def FloatVals (n : Nat) (v : List (Val ℚ)) : Prop := v.length = n ∧ ∀ x ∈ v, numS x

variable {n : Nat} {fields : List (AnimField ℚ)} {cfg : Config ℚ}

theorem floatVals_eq (n : Nat) : FloatVals n = SlotVals n (fun _ => numS) := by
  funext v
  simp only [FloatVals, SlotVals, List.mem_iff_getElem?, forall_exists_index]
  rw [forall_comm]

theorem FloatCfg.slotTimeline (hc : FloatCfg n fields cfg) : SlotTimeline n (fun _ => numS) (Timeline.build fields cfg) := by
  refine build_slotTimeline ⟨hc.dur_pos, hc.pos_unit⟩ hc.delay_nonneg hc.distinct (builtin_easings_fixesEnds hc.easings) ?_
    (fun f hf => ⟨hc.idx_lt f hf, lerpable_num, hc.dflt_num f hf⟩)
  intro k hk p _ x hx
  rw [List.getD_eq_getElem?_getD] at hx
  cases hj : k.vals[p.2]? with
  | none => rw [hj] at hx; cases hx
  | some o => rw [hj] at hx; exact hc.vals_num k hk o (List.mem_of_getElem? hj) x hx

/-- **a builder-built float timeline is `TlOK`**: after any sequence of `start_with` calls it obeys the
blend law and keeps the slots float-valued -/
theorem build_tlOK (hc : FloatCfg n fields cfg) : C04.TlOK (FloatVals n) (Merged.mk [Timeline.build fields cfg]) := by
  rw [floatVals_eq]
  exact slotMerged_tlOK (fun _ => numS_closed) fun _ htl => List.mem_singleton.1 htl ▸ hc.slotTimeline
