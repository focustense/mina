import MinaProofs.Lemmas.RatNum
/-!
# A third number system: ℚ with an abstract rounding after every operation

`Rd ρ` carries a rational and applies `ρ : ℚ → ℚ` to the exact result of every arithmetic operation,
literal and conversion — the shape of IEEE-754 arithmetic ("compute exactly, then round"), with the
exponent range left unbounded.  The generic model functions (`lerp`, `bezY`, `TimeScale.position`,
`interpolate`, …) are *the same Lean terms* that run at `Float32` against the Rust crates and at `ℚ`
in the property theorems; here they are instantiated at `Rd ρ`, and the "exactly" / "stays in range"
clauses of the properties are proved **for every faithful rounding `ρ`** (`Faithful`): monotone,
idempotent, odd, fixing 0, 1, 2, 3 and ½.  Round-to-nearest-even to 24 significant bits has these
properties (`Faithful.rne24` in `Rne.lean`; what stays trusted is that the hardware's operations are "exact result,
then that rounding" — trusted-base item T5); `Faithful.id` and the lossy `Faithful.fixed` show the hypothesis is
satisfiable.  Kernel evaluations of the same terms on the real `Float32` model: `C13.endpoints_exact_f32`,
`C20.boundary_repeat_counts_f32`, the integer `lerp` tables of `MinaKernel/C14`.
-/

/-- a rational produced by rounded arithmetic -/
structure Rd (ρ : ℚ → ℚ) where
  val : ℚ

namespace Rd
variable {ρ : ℚ → ℚ}

@[ext] theorem ext' {a b : Rd ρ} (h : a.val = b.val) : a = b := by cases a; cases b; exact congrArg _ h

instance : Add (Rd ρ) := ⟨fun a b => ⟨ρ (a.val + b.val)⟩⟩
instance : Sub (Rd ρ) := ⟨fun a b => ⟨ρ (a.val - b.val)⟩⟩
instance : Mul (Rd ρ) := ⟨fun a b => ⟨ρ (a.val * b.val)⟩⟩
instance : Div (Rd ρ) := ⟨fun a b => ⟨ρ (a.val / b.val)⟩⟩
instance : Neg (Rd ρ) := ⟨fun a => ⟨-a.val⟩⟩          -- sign flip is exact
instance : LT (Rd ρ) := ⟨fun a b => a.val < b.val⟩
instance : LE (Rd ρ) := ⟨fun a b => a.val ≤ b.val⟩
instance : BEq (Rd ρ) := ⟨fun a b => a.val == b.val⟩

instance : Num (Rd ρ) where
  lit n := ⟨ρ (n : ℚ)⟩
  dec m e := ⟨ρ ((m : ℚ) / (10 : ℚ) ^ e)⟩
  fmod a b := ⟨ρ (fmod a.val b.val)⟩                  -- the float remainder is exact; rounding it again is harmless
  round a := ⟨ρ (RatNum.round a.val)⟩
  toInt? a := RatNum.toInt? a.val
  nanosOfSecs a := RatNum.nanosOfSecs a.val
  secsOfNanos n := ⟨ρ (ρ ((n / 1000000000 : Nat) : ℚ) + ρ (ρ ((n % 1000000000 : Nat) : ℚ) / ρ 1000000000))⟩
  decLt := fun a b => inferInstanceAs (Decidable (a.val < b.val))
  decLe := fun a b => inferInstanceAs (Decidable (a.val ≤ b.val))

@[simp] theorem add_val (a b : Rd ρ) : (a + b).val = ρ (a.val + b.val) := rfl
@[simp] theorem sub_val (a b : Rd ρ) : (a - b).val = ρ (a.val - b.val) := rfl
@[simp] theorem mul_val (a b : Rd ρ) : (a * b).val = ρ (a.val * b.val) := rfl
@[simp] theorem div_val (a b : Rd ρ) : (a / b).val = ρ (a.val / b.val) := rfl
@[simp] theorem neg_val (a : Rd ρ) : (-a).val = -a.val := rfl
@[simp] theorem lit_val (n : Nat) : (lit n : Rd ρ).val = ρ (n : ℚ) := rfl
@[simp] theorem dec_val (m e : Nat) : (dec m e : Rd ρ).val = ρ ((m : ℚ) / (10 : ℚ) ^ e) := rfl
@[simp] theorem fmod_val (a b : Rd ρ) : (fmod a b : Rd ρ).val = ρ (fmod a.val b.val) := rfl
@[simp] theorem round_val (a : Rd ρ) : (Num.round a).val = ρ (RatNum.round a.val) := rfl
@[simp] theorem toInt_eq (a : Rd ρ) : Num.toInt? a = RatNum.toInt? a.val := rfl
theorem lt_iff (a b : Rd ρ) : a < b ↔ a.val < b.val := Iff.rfl
theorem le_iff (a b : Rd ρ) : a ≤ b ↔ a.val ≤ b.val := Iff.rfl
@[simp] theorem beq_iff (a b : Rd ρ) : ((a == b) = true) ↔ a.val = b.val := by
  show ((a.val == b.val) = true) ↔ _
  simp

end Rd

/-- what the theorems need of a rounding: the IEEE-754 "correctly rounded" contract, restricted to what is used -/
structure Faithful (ρ : ℚ → ℚ) : Prop where
  mono : Monotone ρ
  idem : ∀ x, ρ (ρ x) = ρ x
  zero : ρ 0 = 0
  one : ρ 1 = 1
  two : ρ 2 = 2
  three : ρ 3 = 3
  half : ρ (1 / 2) = 1 / 2
  odd : ∀ x, ρ (-x) = -ρ x

/-- exact arithmetic is a faithful rounding: the hypothesis is satisfiable -/
theorem Faithful.id : Faithful (fun x => x) :=
  ⟨fun _ _ h => h, fun _ => rfl, rfl, rfl, rfl, rfl, rfl, fun _ => rfl⟩

/-- a value is representable when rounding leaves it alone (every result of an operation is) -/
def Rd.Rep {ρ : ℚ → ℚ} (a : Rd ρ) : Prop := ρ a.val = a.val

namespace Faithful
variable {ρ : ℚ → ℚ} (F : Faithful ρ)
include F

theorem le_of_fixed {x c : ℚ} (hc : ρ c = c) (h : x ≤ c) : ρ x ≤ c := hc ▸ F.mono h
theorem ge_of_fixed {x c : ℚ} (hc : ρ c = c) (h : c ≤ x) : c ≤ ρ x := hc ▸ F.mono h

theorem nonneg {x : ℚ} (h : 0 ≤ x) : 0 ≤ ρ x := F.ge_of_fixed F.zero h
theorem le_one {x : ℚ} (h : x ≤ 1) : ρ x ≤ 1 := F.le_of_fixed F.one h
theorem nonpos {x : ℚ} (h : x ≤ 0) : ρ x ≤ 0 := F.le_of_fixed F.zero h
theorem lit_zero : (lit 0 : Rd ρ).val = 0 := by rw [Rd.lit_val, Nat.cast_zero, F.zero]
theorem lit_one : (lit 1 : Rd ρ).val = 1 := by rw [Rd.lit_val, Nat.cast_one, F.one]
theorem rep_add (a b : Rd ρ) : (a + b).Rep := F.idem _
theorem rep_sub (a b : Rd ρ) : (a - b).Rep := F.idem _
theorem rep_mul (a b : Rd ρ) : (a * b).Rep := F.idem _
theorem rep_div (a b : Rd ρ) : (a / b).Rep := F.idem _
theorem rep_lit (n : Nat) : (lit n : Rd ρ).Rep := F.idem _
theorem rep_le {x : ℚ} {b : Rd ρ} (hb : b.Rep) (h : b.val ≤ x) : b.val ≤ ρ x := F.ge_of_fixed hb h

/-- the reversing fold `(1 - r)·2` of a ratio `r > ½` (`TimeScale.cyclePos`), computed with rounding, stays in `[0,1]`:
`1 - r < ½` survives rounding because `½` is representable -/
theorem fold_hi_unit {r : ℚ} (h : 1 / 2 < r) (h1 : r ≤ 1) : 0 ≤ ρ (ρ (1 - r) * 2) ∧ ρ (ρ (1 - r) * 2) ≤ 1 := by
  have a0 : 0 ≤ ρ (1 - r) := F.nonneg (sub_nonneg.2 h1)
  have a1 : ρ (1 - r) ≤ 1 / 2 := F.le_of_fixed F.half (by linarith)
  exact ⟨F.nonneg (mul_nonneg a0 zero_le_two), F.le_one (by linarith)⟩

theorem fold_lo_unit {r : ℚ} (h0 : 0 ≤ r) (h : r ≤ 1 / 2) : 0 ≤ ρ (r * 2) ∧ ρ (r * 2) ≤ 1 :=
  ⟨F.nonneg (mul_nonneg h0 zero_le_two), F.le_one (by linarith)⟩

end Faithful

/-! ## a genuinely lossy faithful rounding: round-half-away-from-zero onto the grid of multiples of `2^-k`

This shows `Faithful` is satisfied by a rounding that actually discards information (unlike `Faithful.id`), so the
`…_any_rounding` theorems are not vacuous beyond exact arithmetic.  (Binary32's round-to-nearest-even, `Rne.lean`,
differs in that its grid is relative.) -/

/-- nearest multiple of `2^-k`, ties away from zero -/
def fixedRound (k : Nat) (x : ℚ) : ℚ := (roundInt (x * 2 ^ k) : ℚ) / 2 ^ k

theorem fixedRound_of_int (k : Nat) (n : Int) : fixedRound k ((n : ℚ) / 2 ^ k) = (n : ℚ) / 2 ^ k := by
  unfold fixedRound
  rw [div_mul_cancel₀ _ (by positivity), roundInt_intCast]

theorem fixedRound_intCast (k : Nat) (n : Int) : fixedRound k n = n := by
  have := fixedRound_of_int k (n * 2 ^ k)
  rwa [Int.cast_mul, Int.cast_pow, Int.cast_ofNat, mul_div_cancel_right₀ _ (by positivity)] at this

theorem Faithful.fixed (k : Nat) (hk : 1 ≤ k) : Faithful (fixedRound k) where
  mono a b h :=
    div_le_div_of_nonneg_right (Int.cast_le.2 (roundInt_mono (mul_le_mul_of_nonneg_right h (by positivity))))
      (by positivity)
  idem _ := fixedRound_of_int k _
  zero := by simpa using fixedRound_intCast k 0
  one := by simpa using fixedRound_intCast k 1
  two := by simpa using fixedRound_intCast k 2
  three := by simpa using fixedRound_intCast k 3
  half := by
    obtain ⟨j, rfl⟩ : ∃ j, k = j + 1 := ⟨k - 1, by omega⟩
    have := fixedRound_of_int (j + 1) (2 ^ j)
    rwa [Int.cast_pow, Int.cast_ofNat, pow_succ, ← div_div, div_self (by positivity)] at this
  odd x := by
    unfold fixedRound
    rw [neg_mul, roundInt_neg, Int.cast_neg, neg_div]
