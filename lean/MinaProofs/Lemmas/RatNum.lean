import MinaModel.Lerp
import Mathlib.Tactic.Linarith
import Mathlib.Tactic.Ring
import Mathlib.Tactic.Positivity
import Mathlib.Tactic.FieldSimp
import Mathlib.Tactic.NormNum
import Mathlib.Algebra.Order.Field.Rat
import Mathlib.Algebra.Order.Floor.Ring
import Mathlib.Data.Rat.Floor
/-!
# The `Num ℚ` instance, unfolded: `rfl` simp lemmas and facts about `fmod`, `round` and `roundEven`

`fmod` of non-negative arguments through `Int.fract`; `roundInt` (ties away from zero: `RatNum.round`) and `rneInt`
(ties to even: `RatNum.roundEven`, and the significand rounding of `rne24`), the latter by its specification `IsRne`;
any nearest-integer rounding is monotone whatever its tie rule (`tie_of_nearest_lt`, `monotone_of_nearest`).
-/

@[simp] theorem lit_rat (n : Nat) : (lit n : ℚ) = (n : ℚ) := rfl
@[simp] theorem dec_rat (m e : Nat) : (dec m e : ℚ) = (m : ℚ) / (10 : ℚ) ^ e := rfl
theorem fmod_rat (a b : ℚ) : (fmod a b : ℚ) = a - b * (RatNum.trunc (a / b) : ℚ) := rfl
@[simp] theorem round_rat (q : ℚ) : (Num.round q : ℚ) = RatNum.round q := rfl
@[simp] theorem toInt_rat (q : ℚ) : (Num.toInt? q) = RatNum.toInt? q := rfl
@[simp] theorem secsOfNanos_rat (n : Nat) : (Num.secsOfNanos n : ℚ) = (n : ℚ) / 1000000000 := rfl
@[simp] theorem nanosOfSecs_rat (q : ℚ) : (Num.nanosOfSecs q) = RatNum.nanosOfSecs q := rfl
@[simp] theorem beq_rat (a b : ℚ) : ((a == b) = true) ↔ a = b := by simp
theorem ofInt_rat (i : Int) : (Num.ofInt i : ℚ) = (i : ℚ) := by
  cases i with
  | ofNat n => simp [Num.ofInt]
  | negSucc n => simp [Num.ofInt, Int.negSucc_eq]

theorem rat_floor_eq (q : ℚ) : q.floor = ⌊q⌋ := rfl

theorem trunc_of_nonneg {q : ℚ} (h : 0 ≤ q) : RatNum.trunc q = ⌊q⌋ := by
  unfold RatNum.trunc
  rw [if_neg (not_lt.2 h)]; rfl

/-- for a non-negative dividend and positive divisor, Rust's `%` is the usual remainder -/
theorem fmod_nonneg {a b : ℚ} (ha : 0 ≤ a) (hb : 0 < b) : (fmod a b : ℚ) = b * Int.fract (a / b) := by
  rw [fmod_rat, trunc_of_nonneg (div_nonneg ha hb.le), Int.fract, mul_sub, mul_div_cancel₀ _ hb.ne']

theorem fmod_bounds {a b : ℚ} (ha : 0 ≤ a) (hb : 0 < b) : 0 ≤ (fmod a b : ℚ) ∧ (fmod a b : ℚ) < b := by
  rw [fmod_nonneg ha hb]
  exact ⟨mul_nonneg hb.le (Int.fract_nonneg _), mul_lt_of_lt_one_right hb (Int.fract_lt_one _)⟩

theorem fmod_of_lt {a b : ℚ} (ha : 0 ≤ a) (h : a < b) : (fmod a b : ℚ) = a := by
  have hb := ha.trans_lt h
  rw [fmod_nonneg ha hb, Int.fract_eq_self.2 ⟨div_nonneg ha hb.le, (div_lt_one hb).2 h⟩,
    mul_div_cancel₀ _ hb.ne']

theorem fmod_add_mul {a b : ℚ} (ha : 0 ≤ a) (hb : 0 < b) (k : ℕ) : (fmod (a + b * k) b : ℚ) = fmod a b := by
  rw [fmod_nonneg (add_nonneg ha (mul_nonneg hb.le k.cast_nonneg)) hb, fmod_nonneg ha hb,
    add_div, mul_div_cancel_left₀ _ hb.ne', Int.fract_add_natCast]

/-- nearest integer, ties away from zero; `RatNum.round q` is its cast (`round_eq_roundInt`) -/
def roundInt (q : ℚ) : Int := if q < 0 then -⌊(-q) + 1 / 2⌋ else ⌊q + 1 / 2⌋

theorem round_eq_roundInt (q : ℚ) : RatNum.round q = (roundInt q : ℚ) := by
  unfold RatNum.round roundInt
  split <;> simp [rat_floor_eq]

theorem roundInt_close (q : ℚ) : |q - (roundInt q : ℚ)| ≤ 1 / 2 := by
  fun_cases roundInt q
  · rw [← round_eq, Int.cast_neg, sub_neg_eq_add, ← abs_neg, neg_add, ← sub_eq_add_neg]
    exact abs_sub_round (-q)
  · rw [← round_eq]; exact abs_sub_round q

theorem roundInt_intCast (n : Int) : roundInt (n : ℚ) = n := by
  fun_cases roundInt (n : ℚ)
  · rw [← Int.cast_neg, Int.floor_intCast_add]; norm_num
  · rw [Int.floor_intCast_add]; norm_num

theorem roundInt_neg (q : ℚ) : roundInt (-q) = -roundInt q := by
  rcases lt_trichotomy q 0 with h | rfl | h
  · rw [roundInt, roundInt, if_neg (not_lt.2 (neg_nonneg.2 h.le)), if_pos h, neg_neg]
  · have h0 : roundInt 0 = 0 := by simpa using roundInt_intCast 0
    rw [neg_zero, h0, neg_zero]
  · rw [roundInt, roundInt, if_pos (neg_neg_iff_pos.2 h), if_neg (not_lt.2 h.le), neg_neg]

/-- nearest integers `m` of `a` and `n` of `b ≥ a` are ordered like `a` and `b`, except that one tie may be broken both
ways: `m - ½ ≤ a ≤ b ≤ n + ½` leaves no room for `n + 1 ≤ m` unless all four are equal -/
theorem tie_of_nearest_lt {a b : ℚ} {m n : ℤ} (hab : a ≤ b) (hm : |a - m| ≤ 1 / 2) (hn : |b - n| ≤ 1 / 2)
    (h : n < m) : m = n + 1 ∧ a = n + 1 / 2 ∧ b = n + 1 / 2 := by
  have h' : (n : ℚ) + 1 ≤ m := by exact_mod_cast h
  have bm := (abs_le.1 hm).1
  have bn := (abs_le.1 hn).2
  have e : (m : ℚ) = n + 1 := by linarith
  exact ⟨by exact_mod_cast e, by linarith, by linarith⟩

theorem monotone_of_nearest {f : ℚ → ℤ} (hf : ∀ q, |q - f q| ≤ 1 / 2) : Monotone f := by
  intro a b hab
  by_contra h
  obtain ⟨-, ea, eb⟩ := tie_of_nearest_lt hab (hf a) (hf b) (not_le.1 h)
  obtain rfl : a = b := ea.trans eb.symm
  exact h le_rfl

theorem roundInt_mono {p q : ℚ} (h : p ≤ q) : roundInt p ≤ roundInt q := monotone_of_nearest roundInt_close h

theorem le_roundInt {n : Int} {q : ℚ} (h : (n : ℚ) ≤ q) : n ≤ roundInt q :=
  (roundInt_intCast n).symm.trans_le (roundInt_mono h)

theorem roundInt_le {n : Int} {q : ℚ} (h : q ≤ (n : ℚ)) : roundInt q ≤ n :=
  (roundInt_mono h).trans_eq (roundInt_intCast n)

theorem toInt_intCast (n : Int) : RatNum.toInt? (n : ℚ) = some n := by
  unfold RatNum.toInt?
  simp

/-- nearest integer, ties to the even one: the model's `RatNum.roundEven` (in `nanosOfSecs`) with Mathlib's floor, and
the rounding of the significand in `rne24` -/
def rneInt (y : ℚ) : ℤ :=
  if y - ⌊y⌋ < 1 / 2 then ⌊y⌋ else if 1 / 2 < y - ⌊y⌋ then ⌊y⌋ + 1 else if ⌊y⌋ % 2 = 0 then ⌊y⌋ else ⌊y⌋ + 1

theorem roundEven_eq_rneInt (q : ℚ) : RatNum.roundEven q = rneInt q := by
  simp only [RatNum.roundEven, rneInt, rat_floor_eq, beq_iff_eq]

/-- `n` is a nearest integer to `y`, and the even one if `y` lies half-way between two integers -/
def IsRne (y : ℚ) (n : ℤ) : Prop := |y - n| ≤ 1 / 2 ∧ (|y - n| = 1 / 2 → n % 2 = 0)

theorem rneInt_isRne (y : ℚ) : IsRne y (rneInt y) := by
  have h0 : 0 ≤ y - ⌊y⌋ := sub_nonneg.2 (Int.floor_le y)
  have h1 : y - (⌊y⌋ + 1) ≤ 0 := sub_nonpos.2 (Int.lt_floor_add_one y).le
  unfold rneInt IsRne
  split_ifs with hlt hgt hev
  · rw [abs_of_nonneg h0]; exact ⟨hlt.le, fun h => absurd h hlt.ne⟩
  · rw [Int.cast_add, Int.cast_one, abs_of_nonpos h1]
    have : -(y - (⌊y⌋ + 1)) < 1 / 2 := by linarith
    exact ⟨this.le, fun h => absurd h this.ne⟩
  · rw [abs_of_nonneg h0]; exact ⟨not_lt.1 hgt, fun _ => hev⟩
  · rw [Int.cast_add, Int.cast_one, abs_of_nonpos h1]
    exact ⟨by linarith, fun _ => by omega⟩

/-- the one tie `tie_of_nearest_lt` leaves open would make the two neighbours `n` and `n + 1` both even -/
theorem IsRne.mono {a b : ℚ} {m n : ℤ} (hab : a ≤ b) (hm : IsRne a m) (hn : IsRne b n) : m ≤ n := by
  by_contra h
  obtain ⟨e, ea, eb⟩ := tie_of_nearest_lt hab hm.1 hn.1 (not_le.1 h)
  have em := hm.2 (by rw [ea, e]; norm_num)
  have en := hn.2 (by rw [eb]; norm_num)
  omega

theorem IsRne.unique {y : ℚ} {m n : ℤ} (hm : IsRne y m) (hn : IsRne y n) : m = n :=
  le_antisymm (hm.mono le_rfl hn) (hn.mono le_rfl hm)

theorem IsRne.neg {y : ℚ} {n : ℤ} (h : IsRne y n) : IsRne (-y) (-n) := by
  unfold IsRne at h ⊢
  rw [Int.cast_neg, neg_sub_neg, abs_sub_comm]
  exact ⟨h.1, fun e => by have := h.2 e; omega⟩

theorem rneInt_eq {y : ℚ} {n : ℤ} (h : IsRne y n) : rneInt y = n := (rneInt_isRne y).unique h

theorem rneInt_intCast (n : ℤ) : rneInt (n : ℚ) = n := rneInt_eq (by norm_num [IsRne])

theorem rneInt_neg (y : ℚ) : rneInt (-y) = -rneInt y := rneInt_eq (rneInt_isRne y).neg

theorem rneInt_mono {a b : ℚ} (h : a ≤ b) : rneInt a ≤ rneInt b := (rneInt_isRne a).mono h (rneInt_isRne b)

theorem le_rneInt {n : ℤ} {y : ℚ} (h : (n : ℚ) ≤ y) : n ≤ rneInt y :=
  (rneInt_intCast n).symm.trans_le (rneInt_mono h)

theorem rneInt_le {n : ℤ} {y : ℚ} (h : y ≤ (n : ℚ)) : rneInt y ≤ n :=
  (rneInt_mono h).trans_eq (rneInt_intCast n)

theorem roundEven_bounds (q : ℚ) : ⌊q⌋ ≤ RatNum.roundEven q ∧ RatNum.roundEven q ≤ ⌊q⌋ + 1 := by
  rw [roundEven_eq_rneInt]
  exact ⟨le_rneInt (Int.floor_le q), rneInt_le (by exact_mod_cast (Int.lt_floor_add_one q).le)⟩
