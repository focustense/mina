import MinaProofs.Lemmas.RatNum
import MinaModel.Spec.CssFrames
/-!
# What `from_keyframes` builds (generic in the number type)

First the loop: what a run of `fkStep` over a keyframe list does to each field of the state, from an arbitrary state.
Then the result: the frame list is `synthPre ++ cssReals ++ closing frame`, the first and the last each present or not
(a sublist of a singleton), and `indexMap_spec` says what an entry of the index map points at, in terms of which
keyframes the frames before and after it come from. Nothing here needs the keyframes to be sorted.
-/
open Spec

variable {α : Type} [Num α]

/-- the synthetic 0 % frame as the loop decides it, scanning from an empty frame list -/
def synthPre (d : Val α) (cur : Easing) : List (PKeyframe α) → List (Frame α)
  | [] => []
  | k :: ks => if lit 0 < k.time then [⟨lit 0, d, cur⟩] else if k.value.isSome then [] else synthPre d cur ks

/-- the synthetic frame can only be pushed while no frame exists, so from a state that has frames the loop appends the
defining keyframes only -/
theorem fold_frames (d : Val α) (ks : List (PKeyframe α)) (acc : FkAcc α) :
    (ks.foldl (fkStep d) acc).frames =
      acc.frames ++ ((if acc.frames.isEmpty then synthPre d acc.curEasing ks else []) ++ cssReals ks acc.curEasing) := by
  induction ks generalizing acc with
  | nil => simp [synthPre, cssReals]
  | cons k ks ih =>
    rw [List.foldl_cons, ih]
    unfold fkStep
    -- on an empty frame list a step pushes the synthetic frame (`0 < k.time`), pushes a defining keyframe at 0 %, or
    -- leaves it empty: the three arms of `synthPre`; on a non-empty one neither side adds a synthetic frame
    cases hv : k.value with
    | none => by_cases hpos : lit 0 < k.time <;> cases hf : acc.frames <;> simp [synthPre, cssReals, hv, hpos]
    | some v =>
      cases he : k.easing <;> by_cases hpos : lit 0 < k.time <;> cases hf : acc.frames <;>
        simp [synthPre, cssReals, hv, he, hpos]

theorem fold_frames_init (d : Val α) (ks : List (PKeyframe α)) (e0 : Easing) :
    (ks.foldl (fkStep d) ⟨[], [], e0, false⟩).frames = synthPre d e0 ks ++ cssReals ks e0 := by
  simpa using fold_frames d ks ⟨[], [], e0, false⟩

theorem fold_hasData (d : Val α) (ks : List (PKeyframe α)) (acc : FkAcc α) :
    (ks.foldl (fkStep d) acc).hasData = (acc.hasData || !(cssReals ks acc.curEasing).isEmpty) := by
  induction ks generalizing acc with
  | nil => simp [cssReals]
  | cons k ks ih =>
    simp only [List.foldl_cons, ih]
    unfold fkStep
    cases hv : k.value <;> simp [cssReals, hv]

theorem fold_indexMap (d : Val α) (ks : List (PKeyframe α)) (acc : FkAcc α) :
    (ks.foldl (fkStep d) acc).indexMap =
      acc.indexMap ++ (List.range ks.length).map
        (fun j => max ((ks.take (j + 1)).foldl (fkStep d) acc).frames.length 1 - 1) := by
  induction ks generalizing acc with
  | nil => simp
  | cons k ks ih =>
    have hk : (fkStep d acc k).indexMap = acc.indexMap ++ [max (fkStep d acc k).frames.length 1 - 1] := by
      unfold fkStep; cases k.value <;> rfl
    simp only [List.foldl_cons, ih, hk, List.length_cons, List.range_succ_eq_map, List.map_cons,
      List.map_map, List.append_assoc, List.singleton_append]
    congr 1

theorem synthPre_sublist (d : Val α) (e : Easing) (ks : List (PKeyframe α)) :
    (synthPre d e ks).Sublist [⟨lit 0, d, e⟩] := by
  fun_induction synthPre d e ks with
  | case1 | case3 => exact List.nil_sublist _
  | case2 => exact .refl _
  | case4 _ _ _ _ ih => exact ih

theorem synthPre_length_le (d : Val α) (e : Easing) (ks : List (PKeyframe α)) : (synthPre d e ks).length ≤ 1 :=
  (synthPre_sublist d e ks).length_le

omit [Num α] in
theorem cssReals_times_sublist (ks : List (PKeyframe α)) (e : Easing) :
    ((cssReals ks e).map (·.time)).Sublist (ks.map (·.time)) := by
  fun_induction cssReals ks e with
  | case1 => exact .slnil
  | case2 k ks cur v hv ih => exact ih.cons_cons _
  | case3 k ks cur hv ih => exact ih.cons _

omit [Num α] in
theorem mem_cssReals_time {p : List (PKeyframe α)} {e : Easing} {f : Frame α} (h : f ∈ cssReals p e) :
    ∃ k ∈ p, f.time = k.time := by
  obtain ⟨k, hk, ht⟩ := List.mem_map.1 ((cssReals_times_sublist p e).subset (List.mem_map_of_mem (f := (·.time)) h))
  exact ⟨k, hk, ht.symm⟩

omit [Num α] in
theorem cssReals_length_le (ks : List (PKeyframe α)) (e : Easing) : (cssReals ks e).length ≤ ks.length := by
  simpa using (cssReals_times_sublist ks e).length_le

omit [Num α] in
theorem cssReals_of_noValue {ks : List (PKeyframe α)} (e : Easing) (h : ∀ k ∈ ks, k.value = none) : cssReals ks e = [] := by
  fun_induction cssReals ks e with
  | case1 => rfl
  | case2 k ks cur v hv => cases (h k List.mem_cons_self).symm.trans hv
  | case3 k ks cur hv ih => exact ih fun k' hk' => h k' (List.mem_cons_of_mem _ hk')

theorem mem_of_getElem?_append_right {β : Type} {A L : List β} {j : Nat} {g : β} (h : (A ++ L)[j]? = some g)
    (hj : A.length ≤ j) : g ∈ L := by
  rw [List.getElem?_append_right hj] at h
  exact List.mem_of_getElem? h

theorem fromKeyframes_startOverride (ks : List (PKeyframe α)) (d : Val α) (e0 : Easing) :
    (SubTl.fromKeyframes ks d e0).startOverride = none := by
  fun_cases SubTl.fromKeyframes ks d e0 <;> rfl

theorem fromKeyframes_of_reals_nil {ks : List (PKeyframe α)} (d : Val α) {e0 : Easing} (h : cssReals ks e0 = []) :
    SubTl.fromKeyframes ks d e0 = SubTl.empty := by
  have : (ks.foldl (fkStep d) ⟨[], [], e0, false⟩).hasData = false := by rw [fold_hasData, h]; rfl
  simp [SubTl.fromKeyframes, this]

theorem fold_hasData_of_reals {ks : List (PKeyframe α)} (d : Val α) {e0 : Easing} (h : cssReals ks e0 ≠ []) :
    (ks.foldl (fkStep d) ⟨[], [], e0, false⟩).hasData = true := by
  rw [fold_hasData]; cases hc : cssReals ks e0 <;> simp_all

theorem fromKeyframes_indexMap {ks : List (PKeyframe α)} (d : Val α) {e0 : Easing} (h : cssReals ks e0 ≠ [])
    (idx : Nat) (hidx : idx < ks.length) :
    (SubTl.fromKeyframes ks d e0).indexMap[idx]? =
      some (max ((ks.take (idx + 1)).foldl (fkStep d) ⟨[], [], e0, false⟩).frames.length 1 - 1) := by
  simp only [SubTl.fromKeyframes, fold_hasData_of_reals d h, Bool.not_true, Bool.false_eq_true, if_false,
    fold_indexMap, List.nil_append, List.getElem?_map, List.getElem?_range hidx, Option.map_some]

theorem fromKeyframes_frames {ks : List (PKeyframe α)} (d : Val α) {e0 : Easing} (h : cssReals ks e0 ≠ []) :
    (SubTl.fromKeyframes ks d e0).frames = (match (synthPre d e0 ks ++ cssReals ks e0).getLast? with
      | some l => if l.time < lit 1 then synthPre d e0 ks ++ cssReals ks e0 ++ [⟨lit 1, l.value, l.easing⟩]
          else synthPre d e0 ks ++ cssReals ks e0
      | none => synthPre d e0 ks ++ cssReals ks e0) := by
  simp only [SubTl.fromKeyframes, fold_hasData_of_reals d h, Bool.not_true, Bool.false_eq_true, if_false,
    fold_frames_init]
  rfl

theorem fromKeyframes_frames_append {ks : List (PKeyframe α)} (d : Val α) {e0 : Easing} (h : cssReals ks e0 ≠ []) :
    ∃ l ∈ cssReals ks e0, ∃ tr, tr.Sublist [⟨lit 1, l.value, l.easing⟩] ∧
      (SubTl.fromKeyframes ks d e0).frames = synthPre d e0 ks ++ (cssReals ks e0 ++ tr) := by
  obtain ⟨l, hl⟩ := Option.isSome_iff_exists.1 (List.getLast?_isSome.2 h)
  refine ⟨l, List.mem_of_getLast? hl, ?_⟩
  rw [fromKeyframes_frames d h, List.getLast?_append_of_ne_nil _ h, hl]
  dsimp only
  split
  · exact ⟨_, .refl _, List.append_assoc _ _ _⟩
  · exact ⟨[], List.nil_sublist _, by simp⟩

theorem frames_times_sublist (ks : List (PKeyframe α)) (d : Val α) (e0 : Easing) :
    ((SubTl.fromKeyframes ks d e0).frames.map (·.time)).Sublist (lit 0 :: ks.map (·.time) ++ [lit 1]) := by
  by_cases hr : cssReals ks e0 = []
  · simp [fromKeyframes_of_reals_nil d hr, SubTl.empty]
  · obtain ⟨l, -, tr, htr, hfr⟩ := fromKeyframes_frames_append d hr
    rw [hfr, List.map_append, List.map_append]
    exact ((synthPre_sublist d e0 ks).map _).append ((cssReals_times_sublist ks e0).append (htr.map _))

theorem mem_fromKeyframes_frames {ks : List (PKeyframe α)} {d : Val α} {e0 : Easing} {f : Frame α}
    (h : f ∈ (SubTl.fromKeyframes ks d e0).frames) :
    f = ⟨lit 0, d, e0⟩ ∨ f ∈ cssReals ks e0 ∨ ∃ l ∈ cssReals ks e0, f = ⟨lit 1, l.value, l.easing⟩ := by
  by_cases hr : cssReals ks e0 = []
  · simp [fromKeyframes_of_reals_nil d hr, SubTl.empty] at h
  · obtain ⟨l, hl, tr, htr, hfr⟩ := fromKeyframes_frames_append d hr
    rw [hfr, List.mem_append, List.mem_append] at h
    exact h.imp (fun hf => List.mem_singleton.1 ((synthPre_sublist d e0 ks).subset hf))
      (Or.imp_right fun hf => ⟨l, hl, List.mem_singleton.1 (htr.subset hf)⟩)

theorem fromKeyframes_frames_ne_nil {ks : List (PKeyframe α)} (d : Val α) {e0 : Easing} (h : cssReals ks e0 ≠ []) :
    (SubTl.fromKeyframes ks d e0).frames ≠ [] := by
  obtain ⟨_, -, tr, -, hfr⟩ := fromKeyframes_frames_append d h
  simp [hfr, h]

/-- **the index map**, for the keyframes split as `p ++ q` with `p` holding keyframes `0..idx`. Entry `idx` points at the
last frame pushed while reading `p`, or at frame 0 if there is none yet. So the frame it points at, unless it is frame 0,
sits at the position of a keyframe of `p`, and every later frame sits at the position of a keyframe of `q` or is the
closing frame at 100 %. Reading `p` pushes one frame per keyframe at most, and the synthetic one: `i ≤ idx + 1`. -/
theorem indexMap_spec {p q : List (PKeyframe α)} (d : Val α) {e0 : Easing} (hdata : cssReals (p ++ q) e0 ≠ [])
    {idx : Nat} (hp : p.length = idx + 1) :
    ∃ i f, (SubTl.fromKeyframes (p ++ q) d e0).indexMap[idx]? = some i ∧
      (SubTl.fromKeyframes (p ++ q) d e0).frames[i]? = some f ∧
      i ≤ idx + 1 ∧ (0 < i → ∃ k ∈ p, f.time = k.time) ∧
      ∀ j g, i < j → (SubTl.fromKeyframes (p ++ q) d e0).frames[j]? = some g →
        g.time = lit 1 ∨ ∃ k ∈ q, g.time = k.time := by
  obtain ⟨l, -, tr, htr, hfr⟩ := fromKeyframes_frames_append d hdata
  have him := fromKeyframes_indexMap d hdata idx (by rw [List.length_append]; omega)
  have hne := List.length_pos_of_ne_nil (fromKeyframes_frames_ne_nil d hdata)
  rw [List.take_left' hp] at him
  -- Split the loop's frames at `st`, the state after `p`: the rest of the loop appends `X`, the synthetic frame (only if
  -- `st.frames` is empty), then the defining keyframes of `q`. The entry is `i = max |st.frames| 1 - 1`, and
  -- `st.frames ++ X` has at most `i + 1` elements: whatever comes after index `i` comes from `q` or closes the list.
  rw [← List.append_assoc, ← fold_frames_init, List.foldl_append, fold_frames] at hfr
  generalize hst : p.foldl (fkStep d) ⟨[], [], e0, false⟩ = st at him hfr
  have hP : st.frames = synthPre d e0 p ++ cssReals p e0 := hst ▸ fold_frames_init d p e0
  generalize hX : (if st.frames.isEmpty then synthPre d st.curEasing q else []) = X at hfr
  replace hfr : (SubTl.fromKeyframes (p ++ q) d e0).frames = (st.frames ++ X) ++ (cssReals q st.curEasing ++ tr) := by
    simp only [hfr, List.append_assoc]
  have hPX : (st.frames ++ X).length ≤ max st.frames.length 1 := by
    rw [← hX, List.length_append]
    split
    next hemp =>
      have h1 := synthPre_length_le d st.curEasing q
      have h2 : st.frames.length = 0 := by simpa using hemp
      omega
    next => simp
  have hlen : st.frames.length ≤ (SubTl.fromKeyframes (p ++ q) d e0).frames.length := by
    simp only [hfr, List.length_append]; omega
  refine ⟨_, _, him, List.getElem?_eq_getElem (i := max st.frames.length 1 - 1) (by omega), ?_, ?_, ?_⟩
  · have h1 := synthPre_length_le d e0 p
    have h2 := cssReals_length_le p e0
    rw [hP, List.length_append]; omega
  · -- `0 < i`: `st.frames` has at least two elements, frame `i` is its last one and lies past the synthetic frame
    intro hpos
    apply mem_cssReals_time (p := p) (e := e0)
    apply mem_of_getElem?_append_right (A := synthPre d e0 p) (j := max st.frames.length 1 - 1)
    · rw [← hP, List.getElem?_eq_getElem (by omega)]
      simp only [hfr, List.append_assoc]
      rw [List.getElem_append_left (by omega)]
    · exact le_trans (synthPre_length_le _ _ _) hpos
  · intro j g hj hg
    rw [hfr] at hg
    rcases List.mem_append.1 (mem_of_getElem?_append_right hg (by omega)) with hg | hg
    · exact Or.inr (mem_cssReals_time hg)
    · rw [List.mem_singleton.1 (htr.subset hg)]; exact Or.inl rfl
