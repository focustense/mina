import MinaProofs.Lemmas.Rounded
import Mathlib.Order.Monotone.Odd
import Mathlib.Data.Int.Log
/-!
# Round-to-nearest-even with 24 significant bits is a faithful rounding

`rne24 : ℚ → ℚ` is IEEE-754 binary32's round-to-nearest-even with the exponent range left unbounded: a non-zero `x`
with `2^e ≤ |x| < 2^(e+1)` is rounded to the nearest multiple of `2^(e-23)`, ties to the even multiple.  On every real
number whose magnitude lies in binary32's normal range `[2^-126, 2^128)` this *is* the rounding binary32 arithmetic
applies to the exact result of an operation.  `Faithful.rne24` proves that it has the properties the
`…_any_rounding` theorems assume (monotone, idempotent, odd, fixing 0, 1, 2, 3, ½), so trusted-base item T5 ("binary32
rounding is faithful") is a theorem for all results in the normal range; what remains assumed is only that the hardware
implements this function (and overflow / subnormal results, which the model leaves out by having no exponent bounds).
-/

/-- the unit in the last place of `x`: `2^(⌊log₂|x|⌋ - 23)` -/
def ulp24 (x : ℚ) : ℚ := (2 : ℚ) ^ (Int.log 2 |x| - 23)

theorem ulp24_pos (x : ℚ) : 0 < ulp24 x := zpow_pos (by norm_num) _

theorem ulp24_neg (x : ℚ) : ulp24 (-x) = ulp24 x := by unfold ulp24; rw [abs_neg]

/-- binary32's round-to-nearest-even, exponent range unbounded -/
def rne24 (x : ℚ) : ℚ := if x = 0 then 0 else (rneInt (x / ulp24 x) : ℚ) * ulp24 x

theorem rne24_zero : rne24 0 = 0 := if_pos rfl

theorem rne24_neg (x : ℚ) : rne24 (-x) = -rne24 x := by
  unfold rne24
  by_cases h : x = 0
  · simp [h]
  · rw [if_neg h, if_neg (neg_ne_zero.2 h), ulp24_neg, neg_div, rneInt_neg, Int.cast_neg, neg_mul]

theorem two_pow_mul_zpow (k : ℕ) (e : ℤ) : (2 : ℚ) ^ k * 2 ^ e = 2 ^ (e + k) := by
  rw [zpow_add₀ two_ne_zero, zpow_natCast, mul_comm]

section pos
variable {x : ℚ} (hx : 0 < x)
include hx

theorem ulp24_eq : ulp24 x = (2 : ℚ) ^ (Int.log 2 x - 23) := by unfold ulp24; rw [abs_of_pos hx]

theorem two_pow_23_mul_ulp24 : (2 : ℚ) ^ 23 * ulp24 x = 2 ^ Int.log 2 x := by
  rw [ulp24_eq hx, two_pow_mul_zpow, Nat.cast_ofNat, sub_add_cancel]

theorem two_pow_24_mul_ulp24 : (2 : ℚ) ^ 24 * ulp24 x = 2 ^ (Int.log 2 x + 1) := by
  rw [ulp24_eq hx, two_pow_mul_zpow]; congr 1; push_cast; ring

theorem rne24_pos_eq : rne24 x = (rneInt (x / ulp24 x) : ℚ) * ulp24 x := if_neg hx.ne'

theorem div_ulp24_bounds : (2 : ℚ) ^ 23 ≤ x / ulp24 x ∧ x / ulp24 x < (2 : ℚ) ^ 24 := by
  rw [le_div_iff₀ (ulp24_pos x), div_lt_iff₀ (ulp24_pos x), two_pow_23_mul_ulp24 hx, two_pow_24_mul_ulp24 hx]
  exact ⟨by simpa using Int.zpow_log_le_self (b := 2) (by norm_num) hx,
    by simpa using Int.lt_zpow_succ_log_self (b := 2) (by norm_num) x⟩

theorem rneInt_div_ulp24_bounds : (2 : ℤ) ^ 23 ≤ rneInt (x / ulp24 x) ∧ rneInt (x / ulp24 x) ≤ (2 : ℤ) ^ 24 :=
  ⟨le_rneInt (by exact_mod_cast (div_ulp24_bounds hx).1),
    rneInt_le (by exact_mod_cast (div_ulp24_bounds hx).2.le)⟩

theorem rne24_binade : (2 : ℚ) ^ Int.log 2 x ≤ rne24 x ∧ rne24 x ≤ (2 : ℚ) ^ (Int.log 2 x + 1) := by
  obtain ⟨s1, s2⟩ := rneInt_div_ulp24_bounds hx
  rw [rne24_pos_eq hx, ← two_pow_23_mul_ulp24 hx, ← two_pow_24_mul_ulp24 hx]
  exact ⟨mul_le_mul_of_nonneg_right (by exact_mod_cast s1) (ulp24_pos x).le,
    mul_le_mul_of_nonneg_right (by exact_mod_cast s2) (ulp24_pos x).le⟩

theorem rne24_pos : 0 < rne24 x :=
  lt_of_lt_of_le (zpow_pos (by norm_num) _) (rne24_binade hx).1

theorem rne24_of_int_sig (n : ℤ) (h : x / ulp24 x = n) : rne24 x = x := by
  rw [rne24_pos_eq hx, h, rneInt_intCast, ← h, div_mul_cancel₀ _ (ulp24_pos x).ne']

/-- **the representable numbers**: a multiple of `2^z` below `2^24·2^z` is representable: being below `2^(z+24)`, its
ulp `2^(e-23)` is at most `2^z` -/
theorem rne24_of_lt {z n : ℤ} (h : x = n * 2 ^ z) (hlt : x < 2 ^ 24 * 2 ^ z) : rne24 x = x := by
  have hl : Int.log 2 x < z + 24 := by
    rw [two_pow_mul_zpow] at hlt
    exact (Int.lt_zpow_iff_log_lt (b := 2) (by norm_num) hx).1 (by simpa using hlt)
  obtain ⟨k, hk⟩ : ∃ k : ℕ, z = Int.log 2 x - 23 + k := ⟨(z - (Int.log 2 x - 23)).toNat, by omega⟩
  apply rne24_of_int_sig hx (n * 2 ^ k)
  -- `2^z = 2^k · ulp24 x`, so the scaled significand `x / ulp24 x` is the integer `n · 2^k`
  rw [div_eq_iff (ulp24_pos x).ne', ulp24_eq hx, Int.cast_mul, Int.cast_pow, Int.cast_ofNat, mul_assoc,
    two_pow_mul_zpow, ← hk, h]

end pos

theorem rne24_two_zpow (z : ℤ) : rne24 ((2 : ℚ) ^ z) = (2 : ℚ) ^ z := by
  have hp : (0 : ℚ) < 2 ^ z := zpow_pos (by norm_num) _
  exact rne24_of_lt hp (n := 1) (by simp) ((lt_mul_iff_one_lt_left hp).2 (by norm_num))

/-- the upper end `2^24·2^z` of `rne24_of_lt` is representable too: it is a power of two -/
theorem rne24_of_le {x : ℚ} (hx : 0 < x) {z n : ℤ} (h : x = n * 2 ^ z) (hle : x ≤ 2 ^ 24 * 2 ^ z) : rne24 x = x := by
  rcases hle.lt_or_eq with hlt | heq
  · exact rne24_of_lt hx h hlt
  · rw [heq, two_pow_mul_zpow, rne24_two_zpow]

theorem rne24_idem_pos {x : ℚ} (hx : 0 < x) : rne24 (rne24 x) = rne24 x := by
  -- `rne24 x = n · 2^(e-23)` with `n ≤ 2^24`; equality is the significand that rounded up to the next power of two, which
  -- is why `rne24_of_le` admits it
  apply rne24_of_le (rne24_pos hx) (z := Int.log 2 x - 23) (n := rneInt (x / ulp24 x))
  · rw [rne24_pos_eq hx, ulp24_eq hx]
  · rw [← ulp24_eq hx, two_pow_24_mul_ulp24 hx]
    exact (rne24_binade hx).2

theorem rne24_mono_pos {x y : ℚ} (hx : 0 < x) (hxy : x ≤ y) : rne24 x ≤ rne24 y := by
  have hy : 0 < y := lt_of_lt_of_le hx hxy
  rcases lt_or_eq_of_le (Int.log_mono_right (b := 2) hx hxy) with hlt | heq
  · calc rne24 x ≤ (2 : ℚ) ^ (Int.log 2 x + 1) := (rne24_binade hx).2
      _ ≤ (2 : ℚ) ^ Int.log 2 y := zpow_le_zpow_right₀ (by norm_num) hlt
      _ ≤ rne24 y := (rne24_binade hy).1
  · -- same binade, same ulp
    rw [rne24_pos_eq hx, rne24_pos_eq hy, ulp24_eq hx, heq, ← ulp24_eq hy]
    apply mul_le_mul_of_nonneg_right _ (ulp24_pos y).le
    exact_mod_cast rneInt_mono (div_le_div_of_nonneg_right hxy (ulp24_pos y).le)

theorem rne24_mono : Monotone rne24 :=
  monotone_of_odd_of_monotoneOn_nonneg rne24_neg fun x hx y hy hxy => by
    rcases (Set.mem_Ici.1 hx).lt_or_eq with h | rfl
    · exact rne24_mono_pos h hxy
    · rw [rne24_zero]
      rcases (Set.mem_Ici.1 hy).lt_or_eq with h | h
      · exact (rne24_pos h).le
      · rw [← h, rne24_zero]

theorem rne24_idem (x : ℚ) : rne24 (rne24 x) = rne24 x := by
  rcases lt_trichotomy x 0 with hx | rfl | hx
  · have := rne24_idem_pos (neg_pos.2 hx)
    rwa [rne24_neg, rne24_neg, neg_inj] at this
  · rw [rne24_zero, rne24_zero]
  · exact rne24_idem_pos hx

/-- **binary32's round-to-nearest-even (unbounded exponent) is a faithful rounding** -/
theorem Faithful.rne24 : Faithful rne24 where
  mono := rne24_mono
  idem := rne24_idem
  zero := rne24_zero
  one := by simpa using rne24_two_zpow 0
  two := by simpa using rne24_two_zpow 1
  three := rne24_of_lt (by norm_num) (z := 0) (n := 3) (by norm_num) (by norm_num)
  half := by simpa using rne24_two_zpow (-1)
  odd := rne24_neg
