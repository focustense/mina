import MinaProofs.Lemmas.SlotTimeline
/-!
# Builder-built timelines over any value kinds obey the blend law

`SlotTimeline.lean` for every kind `#[derive(Animate)]` supports (floats and the primitive integer kinds,
which interpolate through `round` and a checked conversion): each animated slot carries the kind of its
field, keyframe and start values are of that kind (integers within the type's range), and the result of an
evaluation — *when it succeeds* — is again of that kind. With `C10.start_value_until_delay`, `C13.ease_zero`
and `C14.lerpInt_at_zero` this gives `TlOK` for every such timeline and every merge of such timelines, hence
`C04.no_jump_built_animator` and `C04.no_jump_merged_animator`. Arithmetic: exact (ℚ).
-/

/-- "a value of the same kind as `d`" (an integer also lies within the range of its type) -/
def kindS (d : Val ℚ) : Val ℚ → Prop :=
  match d with
  | .num _ => fun v => ∃ x, v = .num x
  | .int k _ => fun v => ∃ n, v = .int k n ∧ k.lo ≤ n ∧ n ≤ k.hi

theorem kindS_lerpable (d : Val ℚ) : Lerpable (kindS d) := by
  cases d with
  | num x => exact lerpable_num
  | int k n => exact lerpable_int k

theorem kindS_closed (d a b : Val ℚ) (x : ℚ) (r : Val ℚ) (ha : kindS d a) (hb : kindS d b)
    (h : a.lerp b x = .ok r) : kindS d r := by
  cases d with
  | num _ => exact numS_closed a b x r ha hb h
  | int k _ =>
    obtain ⟨m, rfl, _⟩ := ha
    obtain ⟨n, rfl, _⟩ := hb
    rw [C14.val_lerp_int, C14.lerpInt_eq] at h
    -- success means the range check of the checked conversion passed
    split at h
    next hr => cases h; exact ⟨_, rfl, hr⟩
    next => cases h

/-- the kind carried by slot `i`: that of the field animating it (no constraint on un-animated slots) -/
def slotKind (fields : List (AnimField ℚ)) (i : Nat) : Val ℚ → Prop :=
  fun w => ∀ f ∈ fields, f.idx = i → kindS f.dflt w

structure KindCfg (n : Nat) (fields : List (AnimField ℚ)) (cfg : Config ℚ) : Prop where
  delay_nonneg : 0 ≤ cfg.delay
  dur_pos : 0 < cfg.duration
  pos_unit : ∀ k ∈ cfg.keyframes, 0 ≤ k.time ∧ k.time ≤ 1
  distinct : (cfg.keyframes.map (·.time)).Pairwise (· ≠ ·)
  /-- keyframe values are of their field's kind (the setter's parameter type) -/
  vals_kind : ∀ k ∈ cfg.keyframes, ∀ p ∈ fields.zipIdx, ∀ x, k.vals.getD p.2 none = some x → kindS p.1.dflt x
  easings : isBuiltin cfg.easing ∧ ∀ k ∈ cfg.keyframes, ∀ e, k.easing = some e → isBuiltin e
  dflt_kind : ∀ f ∈ fields, kindS f.dflt f.dflt
  idx_lt : ∀ f ∈ fields, f.idx < n
  idx_nodup : (fields.map (·.idx)).Nodup

/-- values the animator can hold: `n` slots, each animated slot holding a value of its field's kind -/
def KindVals (n : Nat) (fields : List (AnimField ℚ)) (v : List (Val ℚ)) : Prop :=
  v.length = n ∧ ∀ i w, v[i]? = some w → slotKind fields i w

variable {n : Nat} {fields : List (AnimField ℚ)} {cfg : Config ℚ}

theorem slotKind_iff (hnd : (fields.map (·.idx)).Nodup) (f : AnimField ℚ) (hf : f ∈ fields) (w : Val ℚ) :
    slotKind fields f.idx w ↔ kindS f.dflt w := by
  refine ⟨fun h => h f hf rfl, fun h f' hf' hidx => ?_⟩
  rw [List.inj_on_of_nodup_map hnd hf' hf hidx]; exact h

theorem slotKind_closed (i : Nat) (a b : Val ℚ) (x : ℚ) (r : Val ℚ) (ha : slotKind fields i a) (hb : slotKind fields i b)
    (h : a.lerp b x = .ok r) : slotKind fields i r :=
  fun f hf hidx => kindS_closed f.dflt a b x r (ha f hf hidx) (hb f hf hidx) h

theorem KindCfg.slotTimeline (hc : KindCfg n fields cfg) : SlotTimeline n (slotKind fields) (Timeline.build fields cfg) := by
  have hk := slotKind_iff hc.idx_nodup
  exact build_slotTimeline ⟨hc.dur_pos, hc.pos_unit⟩ hc.delay_nonneg hc.distinct (builtin_easings_fixesEnds hc.easings)
    (fun k hk' p hp x hx => (hk p.1 (List.fst_mem_of_mem_zipIdx hp) x).2 (hc.vals_kind k hk' p hp x hx))
    (fun f hf => ⟨hc.idx_lt f hf, fun a b ha hb => kindS_lerpable f.dflt a b ((hk f hf a).1 ha) ((hk f hf b).1 hb),
      (hk f hf _).2 (hc.dflt_kind f hf)⟩)

/-- **a merge of builder-built timelines over the same struct is `TlOK`** -/
theorem build_tlOK_merged (cfgs : List (Config ℚ)) (hcs : ∀ cfg ∈ cfgs, KindCfg n fields cfg) :
    C04.TlOK (KindVals n fields) (Merged.mk (cfgs.map (Timeline.build fields))) :=
  slotMerged_tlOK slotKind_closed (List.forall_mem_map.2 fun cfg hcfg => (hcs cfg hcfg).slotTimeline)

/-- **a builder-built timeline over any value kinds is `TlOK`** -/
theorem build_tlOK_kind (hc : KindCfg n fields cfg) :
    C04.TlOK (KindVals n fields) (Merged.mk [Timeline.build fields cfg]) :=
  build_tlOK_merged [cfg] (List.forall_mem_singleton.2 hc)
