import MinaProofs.Lemmas.ValueAt
import MinaProofs.Props.C14
import MinaProofs.Props.C13
/-!
# The value at a frame's own position is that frame's value
(needs easings that fix 0 and 1 — all built-ins do, C13 — and values whose lerp is exact at 0 and 1 — C14)
-/
open Spec

/-- a set of values on which `lerp` is exact at the endpoints -/
def Lerpable (S : Val ℚ → Prop) : Prop :=
  ∀ a b, S a → S b → a.lerp b 0 = .ok a ∧ a.lerp b 1 = .ok b

def numS : Val ℚ → Prop := fun v => ∃ x, v = .num x

theorem numS_closed (a b : Val ℚ) (x : ℚ) (r : Val ℚ) (ha : numS a) (hb : numS b) (h : a.lerp b x = .ok r) : numS r := by
  obtain ⟨p, rfl⟩ := ha
  obtain ⟨q, rfl⟩ := hb
  simp only [Val.lerp, Except.ok.injEq] at h
  exact ⟨_, h.symm⟩

theorem lerpable_num : Lerpable (fun v => ∃ x, v = .num x) := by
  rintro a b ⟨x, rfl⟩ ⟨y, rfl⟩
  simp [Val.lerp, C14.lerp_at_zero, C14.lerp_at_one]

theorem lerpable_int (k : Gen.IntKind) : Lerpable (fun v => ∃ n, v = .int k n ∧ k.lo ≤ n ∧ n ≤ k.hi) := by
  rintro a b ⟨m, rfl, hm⟩ ⟨n, rfl, hn⟩
  rw [C14.val_lerp_int, C14.val_lerp_int, C14.lerpInt_at_zero k m n hm hn, C14.lerpInt_at_one k m n hm hn]
  exact ⟨rfl, rfl⟩

def FixesEnds (e : Easing) : Prop := e.calc (0 : ℚ) = 0 ∧ e.calc (1 : ℚ) = 1

theorem builtin_fixesEnds (id : Gen.EasingId) : FixesEnds (.builtin id) := ⟨C13.ease_zero id, C13.ease_one id⟩

section ends
variable {S : Val ℚ → Prop} (hS : Lerpable S) {a b : Frame ℚ} (ha : S a.value) (hb : S b.value)
  (he : FixesEnds a.easing)
include hS ha hb he

theorem interpolate_at_left : interpolate a b a.time = .ok a.value := by
  by_cases h : a.time = b.time
  · exact interpolate_of_eq h _
  · rw [interpolate_of_ne h, sub_self, zero_div, he.1, (hS _ _ ha hb).1]

theorem interpolate_at_right (h : a.time ≠ b.time) : interpolate a b b.time = .ok b.value := by
  rw [interpolate_of_ne h, div_self (sub_ne_zero.2 (Ne.symm h)), he.2, (hS _ _ ha hb).2]

end ends

/-- **at a position where frames sit, the value is that of one of them** (the substituted start value for frame 0
while the override is enabled); which one, if several share the position, depends on the hint -/
theorem valueAt_at_frame {ks : List (PKeyframe ℚ)} (hok : KfOK ks) {d : Val ℚ} {e0 : Easing}
    (hdata : cssReals ks e0 ≠ []) {ov : Option (Val ℚ)} (ovr : Bool) {s : ℚ} (hs0 : 0 ≤ s) (hs1 : s ≤ 1)
    {idx : Nat} (hidx : HintOK ks s idx)
    {S : Val ℚ → Prop} (hS : Lerpable S)
    (hSf : ∀ f ∈ (builtSub ks d e0 ov).frames, S f.value ∧ FixesEnds f.easing) (hSo : ∀ v, ov = some v → S v)
    {j : Nat} {fj : Frame ℚ} (hj : (builtSub ks d e0 ov).frames[j]? = some fj) (hsj : fj.time = s) :
    ∃ m f, (builtSub ks d e0 ov).frames[m]? = some f ∧ f.time = s ∧
      (builtSub ks d e0 ov).valueAt s idx ovr = some (.ok (gFrame (builtSub ks d e0 ov) m ovr f).value) := by
  -- a frame as the lookup sees it keeps its value in `S`: it is the frame itself or carries the substituted start value
  have hSg : ∀ m f, S f.value → S (gFrame (builtSub ks d e0 ov) m ovr f).value := by
    intro m f hf
    rcases gFrame_cases (builtSub ks d e0 ov) m ovr f with h | ⟨-, h⟩
    · rw [h]; exact hf
    · obtain ⟨v, _, hv, -, hg⟩ := builtSub_startOverride_iff.1 h
      rw [hg]; exact hSo v hv
  cases valueAt_bracket ks hok d e0 hdata ov s hs0 hs1 idx hidx ovr with
  | seg m f g hf hg h1 h2 hr =>
    obtain ⟨gt, ge⟩ := gFrame_time_easing (builtSub_ovrOK ks d e0 ov) ovr hf
    obtain ⟨hSm, hE⟩ := hSf f (List.mem_of_getElem? hf)
    have hSg' := (hSf g (List.mem_of_getElem? hg)).1
    rw [← ge] at hE
    by_cases hfs : f.time = s
    · -- `s` at the left end of the bracket
      refine ⟨m, f, hf, hfs, ?_⟩
      rw [hr, ← hfs, ← gt, interpolate_at_left hS (hSg m f hSm) hSg' hE]
    · -- the frame at `s` comes after frame `m`, so frame `m + 1` is at `s` too
      have hmj : m < j := builtSub_lt_of_time_lt hok hf hj (hsj ▸ lt_of_le_of_ne h1 hfs)
      have hgs : g.time = s := le_antisymm (hsj ▸ builtSub_mono hok hg hj hmj) h2
      refine ⟨m + 1, g, hg, hgs, ?_⟩
      rw [hr, gFrame_of_pos _ (Nat.succ_pos m), ← hgs,
        interpolate_at_right hS (hSg m f hSm) hSg' hE (by rw [gt, hgs]; exact hfs)]
  | last m f hf hl h1 hr =>
    have hjm : j ≤ m := by have := (List.getElem?_eq_some_iff.1 hj).1; omega
    exact ⟨m, f, hf, le_antisymm h1 (hsj ▸ builtSub_mono hok hj hf hjm), hr⟩
