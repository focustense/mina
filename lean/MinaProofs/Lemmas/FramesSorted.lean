import MinaProofs.Lemmas.FromKeyframes
/-!
# Frames of a built sub-timeline at ℚ, for sorted keyframe positions in [0,1]:
equality with the CSS reading; the frames are sorted, start at 0 and stay within [0,1]; what they inherit
from the keyframes; with distinct keyframe positions only frame 0 sits at 0 %
-/
open Spec

/-- the keyframe list as the builder hands it over: sorted by position, positions in [0, 1] -/
structure KfOK (ks : List (PKeyframe ℚ)) : Prop where
  sorted : ks.Pairwise (fun a b => a.time ≤ b.time)
  nonneg : ∀ k ∈ ks, 0 ≤ k.time
  le_one : ∀ k ∈ ks, k.time ≤ 1

theorem KfOK.tail {k : PKeyframe ℚ} {ks : List (PKeyframe ℚ)} (h : KfOK (k :: ks)) : KfOK ks :=
  ⟨(List.pairwise_cons.1 h.sorted).2, fun x hx => h.nonneg x (by simp [hx]), fun x hx => h.le_one x (by simp [hx])⟩

theorem synthPre_eq (d : Val ℚ) {e : Easing} {ks : List (PKeyframe ℚ)} (hok : KfOK ks) {f : Frame ℚ}
    {rs : List (Frame ℚ)} (h : cssReals ks e = f :: rs) :
    synthPre d e ks = if lit 0 < f.time then [⟨lit 0, d, e⟩] else [] := by
  fun_induction synthPre d e ks with
  | case1 => simp [cssReals] at h
  | case2 k ks hpos =>
    -- `f` sits at a keyframe of the list, none of which is before `k`
    obtain ⟨k', hk', ht⟩ := mem_cssReals_time (p := k :: ks) (e := e) (f := f) (by rw [h]; simp)
    have : k.time ≤ f.time := by
      rw [ht]
      rcases List.mem_cons.1 hk' with rfl | hk'
      · exact le_rfl
      · exact (List.pairwise_cons.1 hok.sorted).1 k' hk'
    rw [if_pos (lt_of_lt_of_le hpos this)]
  | case3 k ks hpos hv =>
    obtain ⟨v, hv⟩ := Option.isSome_iff_exists.1 hv
    simp only [cssReals, hv, List.cons.injEq] at h
    rw [if_neg (h.1 ▸ hpos)]
  | case4 k ks hpos hv ih =>
    -- the synthetic frame of the tail uses the same easing (no defining keyframe so far)
    simp only [cssReals, Option.not_isSome_iff_eq_none.1 hv] at h
    exact ih hok.tail h

/-- `from_keyframes` builds exactly the CSS reading of the keyframe list -/
theorem frames_eq_css (ks : List (PKeyframe ℚ)) (hok : KfOK ks) (d : Val ℚ) (e0 : Easing) :
    (SubTl.fromKeyframes ks d e0).frames = cssFrames ks d e0 := by
  cases hr : cssReals ks e0 with
  | nil => simp [fromKeyframes_of_reals_nil d hr, SubTl.empty, cssFrames, hr]
  | cons f rs =>
    rw [fromKeyframes_frames d (by simp [hr])]
    -- sortedness enters here only: the loop decides on the synthetic frame at the first keyframe it reads, the CSS
    -- reading at the first defining one
    simp only [cssFrames, hr, synthPre_eq d hok hr]
    rfl

theorem KfOK.times_sorted {ks : List (PKeyframe ℚ)} (hok : KfOK ks) :
    List.Pairwise (· ≤ ·) ((0 : ℚ) :: ks.map (·.time) ++ [1]) ∧ ∀ t ∈ (0 : ℚ) :: ks.map (·.time) ++ [1], 0 ≤ t ∧ t ≤ 1 := by
  have hb : ∀ t ∈ (0 : ℚ) :: ks.map (·.time) ++ [1], 0 ≤ t ∧ t ≤ 1 := by
    simp only [List.cons_append, List.mem_cons, List.mem_append, List.mem_map, List.not_mem_nil, or_false]
    rintro t (rfl | ⟨k, hk, rfl⟩ | rfl)
    · exact ⟨le_rfl, zero_le_one⟩
    · exact ⟨hok.nonneg k hk, hok.le_one k hk⟩
    · exact ⟨zero_le_one, le_rfl⟩
  refine ⟨List.pairwise_cons.2 ⟨fun t ht => (hb t (List.mem_cons_of_mem _ ht)).1, List.pairwise_append.2
    ⟨List.pairwise_map.2 hok.sorted, List.pairwise_singleton _ _, fun a ha b hb' => ?_⟩⟩, hb⟩
  rw [List.mem_singleton.1 hb']
  exact (hb a (List.mem_cons_of_mem _ (List.mem_append_left _ ha))).2

theorem frames_sorted {ks : List (PKeyframe ℚ)} (hok : KfOK ks) (d : Val ℚ) (e0 : Easing) :
    (SubTl.fromKeyframes ks d e0).frames.Pairwise (fun a b => a.time ≤ b.time) ∧
    ∀ f ∈ (SubTl.fromKeyframes ks d e0).frames, 0 ≤ f.time ∧ f.time ≤ 1 := by
  have hs := frames_times_sublist ks d e0
  simp only [lit_rat, Nat.cast_zero, Nat.cast_one] at hs
  exact ⟨List.pairwise_map.1 (hok.times_sorted.1.sublist hs),
    fun f hf => hok.times_sorted.2 _ (hs.subset (List.mem_map_of_mem hf))⟩

/-- frame 0 is the synthetic frame, or the first defining keyframe when that one is not after 0 % -/
theorem frames_head_time {ks : List (PKeyframe ℚ)} (hok : KfOK ks) {d : Val ℚ} {e0 : Easing} {f0 : Frame ℚ}
    (h : (SubTl.fromKeyframes ks d e0).frames[0]? = some f0) : f0.time = 0 := by
  cases hr : cssReals ks e0 with
  | nil => simp [fromKeyframes_of_reals_nil d hr, SubTl.empty] at h
  | cons r rs =>
    obtain ⟨_, -, tr, -, hfr⟩ := fromKeyframes_frames_append (ks := ks) (e0 := e0) d (by simp [hr])
    obtain ⟨k, hk, hkt⟩ := mem_cssReals_time (p := ks) (e := e0) (f := r) (by simp [hr])
    rw [hfr, synthPre_eq d hok hr, hr] at h
    by_cases hpos : lit 0 < r.time
    · rw [if_pos hpos] at h; cases h; rfl
    · rw [if_neg hpos] at h; cases h
      exact le_antisymm (by simpa using hpos) (hkt ▸ hok.nonneg k hk)

theorem cssReals_props (P : Val ℚ → Prop) (Q : Easing → Prop) {ks : List (PKeyframe ℚ)} {e : Easing}
    (hv : ∀ k ∈ ks, ∀ x, k.value = some x → P x) (he : ∀ k ∈ ks, ∀ x, k.easing = some x → Q x) (hq : Q e) :
    ∀ f ∈ cssReals ks e, P f.value ∧ Q f.easing := by
  fun_induction cssReals ks e with
  | case1 => exact fun _ hf => nomatch hf
  | case2 k ks e x hval ih =>
    have hcur : Q (k.easing.getD e) := by
      cases hke : k.easing with
      | none => exact hq
      | some x' => exact he k List.mem_cons_self x' hke
    exact List.forall_mem_cons.2 ⟨⟨hv k List.mem_cons_self x hval, hcur⟩,
      ih (fun k' hk' => hv k' (List.mem_cons_of_mem _ hk')) (fun k' hk' => he k' (List.mem_cons_of_mem _ hk')) hcur⟩
  | case3 k ks e hval ih =>
    exact ih (fun k' hk' => hv k' (List.mem_cons_of_mem _ hk')) (fun k' hk' => he k' (List.mem_cons_of_mem _ hk')) hq

theorem frames_props (P : Val ℚ → Prop) (Q : Easing → Prop) {ks : List (PKeyframe ℚ)} {d : Val ℚ} {e0 : Easing}
    (hv : ∀ k ∈ ks, ∀ x, k.value = some x → P x) (he : ∀ k ∈ ks, ∀ x, k.easing = some x → Q x) (hq : Q e0) (hd : P d) :
    ∀ f ∈ (SubTl.fromKeyframes ks d e0).frames, P f.value ∧ Q f.easing := by
  intro f hf
  have hR := cssReals_props P Q hv he hq
  rcases mem_fromKeyframes_frames hf with rfl | h | ⟨l, hl, rfl⟩
  · exact ⟨hd, hq⟩
  · exact hR f h
  · exact hR l hl

theorem no_dup_at_zero {ks : List (PKeyframe ℚ)} (hok : KfOK ks) {d : Val ℚ} {e0 : Easing}
    (hdist : (ks.map (·.time)).Pairwise (· ≠ ·)) (f1 : Frame ℚ) (h1 : (cssFrames ks d e0)[1]? = some f1) : 0 < f1.time := by
  rw [← frames_eq_css ks hok d e0] at h1
  cases hr : cssReals ks e0 with
  | nil => simp [fromKeyframes_of_reals_nil d hr, SubTl.empty] at h1
  | cons r0 rs =>
    obtain ⟨l, -, tr, htr, hfr⟩ := fromKeyframes_frames_append (ks := ks) (e0 := e0) d (by simp [hr])
    have hrd := hdist.sublist (cssReals_times_sublist ks e0)
    have hnn : ∀ f ∈ cssReals ks e0, 0 ≤ f.time := fun f hf =>
      let ⟨k, hk, ht⟩ := mem_cssReals_time hf; ht ▸ hok.nonneg k hk
    rw [hfr, synthPre_eq d hok hr, hr] at h1
    rw [hr] at hrd hnn
    by_cases hpos : lit 0 < r0.time
    · -- frame 1 is the first defining keyframe
      rw [if_pos hpos] at h1
      cases h1
      simpa using hpos
    · -- frame 0 is a defining keyframe at 0 %; frame 1 is another one, or the 100 % frame
      rw [if_neg hpos] at h1
      rcases List.mem_append.1 (List.mem_of_getElem? (i := 0) (l := rs ++ tr) (by simpa using h1)) with h | h
      · have h0 : r0.time = 0 := le_antisymm (by simpa using hpos) (hnn r0 List.mem_cons_self)
        have hne := (List.pairwise_cons.1 hrd).1 f1.time (List.mem_map_of_mem h)
        exact lt_of_le_of_ne (hnn f1 (List.mem_cons_of_mem _ h)) (h0 ▸ hne)
      · rw [List.mem_singleton.1 (htr.subset h)]
        simp
