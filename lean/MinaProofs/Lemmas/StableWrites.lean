import MinaProofs.Lemmas.BuiltLike
import MinaProofs.Lemmas.Prepare
import MinaProofs.Props.C06
/-!
# Built timelines write a time-independent set of slots

`C06.advance_add` needs `StableWrites`: which slots a timeline writes does not depend on the time. This
file proves it for every builder-built timeline (any value kinds, any easings, any sequence of
`start_with` calls), from the lookup theorem: a sub-timeline with data yields a value at every position in
`[0, 1]`, a sub-timeline without data never does, and the normalised position always lies in `[0, 1]`.
Arithmetic: exact (ℚ).
-/
open Spec

variable {α : Type} [Num α]

/-- a timeline whose written index list is the same at every time -/
def FixedIdx (tl : Timeline α) : Prop := ∃ D : List Nat, ∀ t W, tl.writes t = .ok W → W.map Prod.fst = D

theorem mergedWrites_fixedIdx {tls : List (Timeline α)} (h : ∀ tl ∈ tls, FixedIdx tl) :
    ∃ D : List Nat, ∀ t W, C12.mergedWrites tls t = .ok W → W.map Prod.fst = D := by
  induction tls with
  | nil => exact ⟨[], fun t W hW => by cases hW; rfl⟩
  | cons tl rest ih =>
    obtain ⟨⟨D1, h1⟩, hrest⟩ := List.forall_mem_cons.1 h
    obtain ⟨D2, h2⟩ := ih hrest
    refine ⟨D1 ++ D2, fun t W hW => ?_⟩
    obtain ⟨W1, W2, hw1, hw2, rfl⟩ := C12.mergedWrites_cons_ok.1 hW
    rw [List.map_append, h1 t W1 hw1, h2 t W2 hw2]

theorem stableWrites_of_fixedIdx {tls : List (Timeline α)} (h : ∀ tl ∈ tls, FixedIdx tl) :
    C06.StableWrites (Merged.mk tls) := by
  obtain ⟨D, hD⟩ := mergedWrites_fixedIdx h
  intro t t' W W' hW hW' k hk
  rw [lastWrite_eq_none_iff, hD t W hW]
  rwa [lastWrite_eq_none_iff, hD t' W' hW'] at hk

theorem builtSub_isSome {ks : List (PKeyframe ℚ)} (hok : KfOK ks) (d : Val ℚ) (e0 : Easing) (ov : Option (Val ℚ))
    {s : ℚ} (hs0 : 0 ≤ s) (hs1 : s ≤ 1) {idx : Nat} (hidx : HintOK ks s idx) (ovr : Bool) :
    ((builtSub ks d e0 ov).valueAt s idx ovr).isSome = !(builtSub ks d e0 ov).frames.isEmpty := by
  by_cases hdata : cssReals ks e0 = []
  · rw [builtSub_of_reals_nil d ov hdata, empty_valueAt]; rfl
  · have hfr : (builtSub ks d e0 ov).frames.isEmpty = false := by
      rw [(builtSub_frames ks d e0 ov).1, List.isEmpty_eq_false_iff]
      exact fromKeyframes_frames_ne_nil d hdata
    -- bracketed either way, the lookup returns something
    rcases valueAt_bracket ks hok d e0 hdata ov s hs0 hs1 idx hidx ovr with ⟨_, _, _, _, _, _, _, hr⟩ | ⟨_, _, _, _, _, hr⟩ <;>
      rw [hr, hfr] <;> rfl

/-- **every timeline built by the builder, after any `start_with` calls, writes a fixed set of slots** -/
theorem builtLike_fixedIdx {cfg : Config ℚ} (hc : BuiltCfg cfg) (tl : Timeline ℚ) (h : BuiltLike cfg tl) : FixedIdx tl := by
  by_cases hempty : tl.boundary = []
  · refine ⟨[], fun t W hW => ?_⟩
    simp only [Timeline.writes, prepareFrame, hempty, List.isEmpty_nil, if_true] at hW
    cases hW; rfl
  · -- the sub-timelines that write are those with data, at every time
    refine ⟨(tl.subs.filter fun p => !p.2.frames.isEmpty).map Prod.fst, fun t W hW => ?_⟩
    unfold Timeline.writes at hW
    rw [prepareFrame_eq _ hempty] at hW
    rw [writesOf_fst hW]
    refine congrArg _ (List.filter_congr fun p hp => ?_)
    obtain ⟨ks, d, ov, hs, hok, ht⟩ := h.sub hc hp
    obtain ⟨p0, p1⟩ := position_value_unit tl.ts (by rw [h.ts]; exact hc.dur_pos) t
    rw [← posOvr_value] at p0 p1
    rw [hs]
    exact builtSub_isSome hok d cfg.easing ov p0 p1 (hintOK_of_times hok ht hempty _) _
