import MinaProofs.Lemmas.Search
import MinaProofs.Lemmas.TimeScale
import MinaModel.Timeline
/-!
# `prepare_frame` unfolded
-/

/-- the `(normalized_time, enable_start_override)` pair `prepare_frame` derives from a position -/
def posOvr : Pos ℚ → ℚ × Bool
  | .active t rep rev => (t, !rep && !rev)
  | .notStarted => (0, true)
  | .ended t => (t, false)

theorem prepareFrame_eq (ts : TimeScale ℚ) {bt : List ℚ} (hne : bt ≠ []) (time : ℚ) :
    prepareFrame ts bt time =
      some ((posOvr (ts.position time)).1, searchIdx bt (posOvr (ts.position time)).1, (posOvr (ts.position time)).2) := by
  rw [prepareFrame, if_neg (by simpa using hne)]
  cases ts.position time <;> rfl

theorem posOvr_value (p : Pos ℚ) : (posOvr p).1 = p.value := by cases p <;> rfl
