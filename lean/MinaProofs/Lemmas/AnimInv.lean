import MinaProofs.Props.C12
import MinaProofs.Lemmas.Animator
/-!
# The animator invariant (generic in the number system)

`AnimInv a`:
* **current** — if the current state is animated, `current_values` is a fixpoint of that state's timeline
  at the time spent in the state (i.e. the values *are* the timeline evaluated there);
* **paused** — if a pause is remembered for another state `ps`, the current state is un-animated and the
  values are a fixpoint of `ps`'s timeline at the remembered position (frozen exactly where it was).

It is preserved by `advanceNs` and `switchTo` (here; `set_state` is `C04.set_state_no_jump`) and holds initially given
the blend law (`C04.good_initial`).
The *current* clause says `a.updateValues = .ok a` (`Animator.updateValues_eq_self`); that is how it is
established (`updateValues` is idempotent) and used (`set_state` switches to a record that is already at rest).
-/

variable {α : Type} [Num α]
open Animator

theorem merged_update_idempotent {m : Merged α} {tgt r : List (Val α)} {time : α}
    (h : m.update tgt time = .ok r) : m.update r time = .ok r := by
  obtain ⟨W, hW, rfl⟩ := C12.merged_update_ok_iff.1 h
  exact C12.merged_update_ok_iff.2 ⟨W, hW, applyWrites_idem W tgt⟩

/-- the blend law a timeline must satisfy for `set_state` not to jump: started from `v` and evaluated at
time 0 it reproduces `v` -/
def BlendOK (P : List (Val α) → Prop) (m : Merged α) : Prop :=
  ∀ v : List (Val α), P v → (m.startWith v).update v (Num.secsOfNanos 0) = .ok v

structure AnimInv (a : Animator α) : Prop where
  current : ∀ tl, a.timeline? a.state = some tl → tl.update a.values (Num.secsOfNanos a.stateNs) = .ok a.values
  paused : ∀ ps pos, a.paused = some (ps, pos) → ps ≠ a.state →
    a.timeline? a.state = none ∧ ∀ tl, a.timeline? ps = some tl → tl.update a.values (Num.secsOfNanos pos) = .ok a.values

theorem updateValues_idem {a a' : Animator α} (h : a.updateValues = .ok a') : a'.updateValues = .ok a' := by
  obtain ⟨v, rfl⟩ := updateValues_shape h
  exact updateValues_eq_self.2 fun tl htl => merged_update_idempotent (updateValues_values (a := a) h htl)

theorem AnimInv.advanceNs {a a' : Animator α} {ns : Nat} (hinv : AnimInv a) (h : a.advanceNs ns = .ok a') : AnimInv a' := by
  refine ⟨updateValues_eq_self.1 (updateValues_idem (advanceNs_eq_ok.1 h).2), fun ps pos hp hne => ?_⟩
  obtain ⟨v, rfl⟩ := advanceNs_shape h
  -- a pause is remembered, so the current state is un-animated and `update_current_values` did nothing
  cases advanceNs_of_none h (hinv.paused ps pos hp hne).1
  exact hinv.paused ps pos hp hne

/-- **the reason `set_state` cannot jump**: the record it switches to satisfies the invariant, so by its *current*
clause it is already at rest and the final `update_current_values` changes nothing
(`hblend`: the blend law at the current values) -/
theorem AnimInv.switchTo {a : Animator α} {s : Nat} (hinv : AnimInv a)
    (hblend : ∀ tl, a.timeline? s = some tl → (tl.startWith a.values).update a.values (Num.secsOfNanos 0) = .ok a.values)
    (hs : s ≠ a.state) : AnimInv (a.switchTo s) := by
  cases hr : a.resumePos s with
  | some pos' =>
    -- resumed: the values were frozen at the remembered position, and the only remembered pause is for `s` itself
    have hp' := resumePos_eq_some.1 hr
    rw [switchTo_resume hp']
    refine ⟨(hinv.paused s pos' hp' hs).2, fun ps pos hp hne => ?_⟩
    cases hp'.symm.trans hp; exact absurd rfl hne
  | none =>
    rw [switchTo_enter hr]
    refine ⟨fun tl htl => ?_, fun ps pos hp hne => ?_⟩
    · -- entered: the timeline was started from the current values and the clock is at zero
      simp only [timeline?_mk, enter_timeline?, if_true, enter_values, enter_stateNs] at htl ⊢
      obtain ⟨tl0, h0, rfl⟩ := Option.map_eq_some_iff.1 htl
      exact hblend tl0 h0
    · -- `isSome` tests become `= none` tests; entering an animated state forgets the pause, which leaves two cases
      simp only [timeline?_mk, enter_timeline?, if_true, enter_values, enter_paused, notePause_eq,
        Option.isSome_iff_ne_none, ne_eq, ite_not, Option.map_eq_none_iff] at hp hne ⊢
      rw [if_neg hne]
      split_ifs at hp with hwill hwas
      · -- between un-animated states the remembered pause is kept
        refine ⟨hwill, fun tl h => ?_⟩
        by_cases hps : ps = a.state
        · rw [hps, hwas] at h; cases h
        · exact (hinv.paused ps pos hp hps).2 tl h
      · -- an animation was interrupted by an un-animated state: it is remembered where it was
        cases hp
        exact ⟨hwill, hinv.current⟩
