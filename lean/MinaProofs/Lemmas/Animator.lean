import MinaModel.Animator
/-!
# The animator's operations

What `blendNext`, `notePause`, `enter`, `switchTo` do to each field and to `timeline?`; when `updateValues`,
`advanceNs`, `setState`, `step` return `.ok` and which fields of the record they can have changed (`…_shape`); induction
over `run`. `a.All Q` (every timeline the animator holds satisfies `Q`) is kept by every operation as soon as
`start_with` of the current values keeps `Q`.
Generic in the number system.
-/

variable {α : Type}

namespace Animator

@[simp] theorem timeline?_mk (a : Animator α) (st : Nat) (v : List (Val α)) (p : Option (Nat × Nat)) (ns s : Nat) :
    (⟨a.timelines, st, v, p, ns⟩ : Animator α).timeline? s = a.timeline? s := rfl

theorem timeline?_eq_some {a : Animator α} {s : Nat} {tl : Merged α} :
    a.timeline? s = some tl ↔ a.timelines[s]? = some (some tl) := by
  fun_cases timeline? a s with
  | case1 m hm => simp [hm]
  | case2 h => exact ⟨fun h' => (nomatch h'), fun h' => absurd h' (h tl)⟩

theorem blendNext_timeline? (a : Animator α) (s s' : Nat) :
    (a.blendNext s).timeline? s' =
      if s' = s then (a.timeline? s).map (·.startWith a.values) else a.timeline? s' := by
  fun_cases blendNext a s with
  | case1 tl htl =>
    have hlt : s < a.timelines.length := (List.getElem?_eq_some_iff.1 (timeline?_eq_some.1 htl)).1
    rw [htl]
    unfold timeline?
    by_cases h : s' = s
    · subst h; simp [List.getElem?_set_self hlt]
    · simp [List.getElem?_set_ne (Ne.symm h), h]
  | case2 htl => split <;> simp_all

@[simp] theorem blendNext_values (a : Animator α) (s : Nat) : (a.blendNext s).values = a.values := by
  fun_cases blendNext a s <;> rfl

@[simp] theorem blendNext_state (a : Animator α) (s : Nat) : (a.blendNext s).state = a.state := by
  fun_cases blendNext a s <;> rfl

@[simp] theorem blendNext_paused (a : Animator α) (s : Nat) : (a.blendNext s).paused = a.paused := by
  fun_cases blendNext a s <;> rfl

@[simp] theorem blendNext_stateNs (a : Animator α) (s : Nat) : (a.blendNext s).stateNs = a.stateNs := by
  fun_cases blendNext a s <;> rfl

theorem notePause_eq (a : Animator α) (s : Nat) :
    a.notePause s = { a with paused :=
      if (a.timeline? s).isSome then none
      else if (a.timeline? a.state).isSome then some (a.state, a.stateNs) else a.paused } := by
  unfold notePause
  cases (a.timeline? s).isSome <;> cases (a.timeline? a.state).isSome <;> rfl

theorem resumePos_eq_some {a : Animator α} {s pos : Nat} :
    a.resumePos s = some pos ↔ a.paused = some (s, pos) := by
  fun_cases resumePos a s with
  | case1 ps pos' hp h => simp [hp, eq_of_beq h]
  | case2 ps pos' hp h => simp [hp, Ne.symm (mt beq_iff_eq.2 h)]
  | case3 hp => simp [hp]

theorem switchTo_resume {a : Animator α} {s pos : Nat} (h : a.paused = some (s, pos)) :
    a.switchTo s = { a with stateNs := pos, state := s } := by
  unfold switchTo; rw [resumePos_eq_some.2 h]

theorem switchTo_enter {a : Animator α} {s : Nat} (h : a.resumePos s = none) :
    a.switchTo s = { a.enter s with state := s } := by
  unfold switchTo; rw [h]

-- `enter` is unfolded by `simp only` before anything is compared: a defeq check of `a.enter s` against
-- `(a.notePause s).blendNext s` first tries to identify the two records, fails on `stateNs`, and is slow
theorem enter_timeline? (a : Animator α) (s s' : Nat) :
    (a.enter s).timeline? s' =
      if s' = s then (a.timeline? s).map (·.startWith a.values) else a.timeline? s' := by
  simp only [enter, notePause_eq, timeline?_mk, blendNext_timeline?]

@[simp] theorem enter_values (a : Animator α) (s : Nat) : (a.enter s).values = a.values := by
  simp only [enter, blendNext_values, notePause_eq]

@[simp] theorem enter_stateNs (a : Animator α) (s : Nat) : (a.enter s).stateNs = 0 := rfl

theorem enter_paused (a : Animator α) (s : Nat) : (a.enter s).paused = (a.notePause s).paused := by
  simp only [enter, blendNext_paused]

@[simp] theorem switchTo_values (a : Animator α) (s : Nat) : (a.switchTo s).values = a.values := by
  fun_cases switchTo a s with
  | case1 => rfl
  | case2 => rw [enter_values]

@[simp] theorem switchTo_state (a : Animator α) (s : Nat) : (a.switchTo s).state = s := by
  fun_cases switchTo a s <;> rfl

/-- every timeline the animator holds satisfies `Q`.
In the lemmas below the hypothesis `a.All Q` comes before `hQ`: elaborated the other way round, `hQ` is
checked against `Q (m.startWith ?a.values)` with `?a` still unknown, and a `Q` that is a definition gets
unfolded against the metavariable at great cost. -/
def All (Q : Merged α → Prop) (a : Animator α) : Prop := ∀ s tl, a.timeline? s = some tl → Q tl

theorem all_iff_mem {Q : Merged α → Prop} {a : Animator α} : a.All Q ↔ ∀ m, some m ∈ a.timelines → Q m := by
  simp only [All, timeline?_eq_some, List.mem_iff_getElem?]
  exact ⟨fun h m ⟨s, hs⟩ => h s m hs, fun h s tl hs => h tl ⟨s, hs⟩⟩

theorem All.of_blend {Q : Merged α → Prop} {a b : Animator α} {s : Nat} (ha : a.All Q)
    (hQ : ∀ m, Q m → Q (m.startWith a.values))
    (hb : ∀ s', b.timeline? s' = if s' = s then (a.timeline? s).map (·.startWith a.values) else a.timeline? s') :
    b.All Q := by
  intro s' tl htl
  rw [hb] at htl
  split at htl
  · obtain ⟨tl0, h0, rfl⟩ := Option.map_eq_some_iff.1 htl
    exact hQ tl0 (ha s tl0 h0)
  · exact ha s' tl htl

theorem All.blendNext {Q : Merged α → Prop} {a : Animator α} (ha : a.All Q)
    (hQ : ∀ m, Q m → Q (m.startWith a.values)) (s : Nat) : (a.blendNext s).All Q :=
  ha.of_blend hQ (blendNext_timeline? a s)

theorem All.switchTo {Q : Merged α → Prop} {a : Animator α} (ha : a.All Q)
    (hQ : ∀ m, Q m → Q (m.startWith a.values)) (s : Nat) : (a.switchTo s).All Q := by
  fun_cases Animator.switchTo a s with
  | case1 => exact ha
  | case2 => exact ha.of_blend hQ fun s' => by rw [timeline?_mk, enter_timeline?]

theorem all_new {Q : Merged α → Prop} {timelines : List (Option (Merged α))} {v0 : List (Val α)}
    (h : ∀ m, some m ∈ timelines → Q m) (hQ : ∀ m, Q m → Q (m.startWith v0)) (s0 : Nat) :
    (Animator.new timelines s0 v0).All Q :=
  All.blendNext (a := ⟨timelines, s0, v0, none, 0⟩) (all_iff_mem.2 h) hQ s0

variable [Num α]

theorem updateValues_shape {a a' : Animator α} (h : a.updateValues = .ok a') : ∃ v, a' = { a with values := v } := by
  revert h
  fun_cases updateValues a <;> intro h <;> cases h <;> exact ⟨_, rfl⟩

theorem updateValues_of_none {a : Animator α} (htl : a.timeline? a.state = none) : a.updateValues = .ok a := by
  unfold updateValues; rw [htl]

theorem updateValues_values {a a' : Animator α} {tl : Merged α} (h : a.updateValues = .ok a')
    (htl : a.timeline? a.state = some tl) : tl.update a.values (Num.secsOfNanos a.stateNs) = .ok a'.values := by
  unfold updateValues at h
  rw [htl] at h
  simp only at h
  split at h <;> cases h
  assumption

theorem updateValues_of_some {a : Animator α} {tl : Merged α} {r : List (Val α)} (htl : a.timeline? a.state = some tl)
    (hu : tl.update a.values (Num.secsOfNanos a.stateNs) = .ok r) : a.updateValues = .ok { a with values := r } := by
  unfold updateValues; rw [htl]; simp only; rw [hu]

theorem updateValues_eq_self {a : Animator α} :
    a.updateValues = .ok a ↔
      ∀ tl, a.timeline? a.state = some tl → tl.update a.values (Num.secsOfNanos a.stateNs) = .ok a.values := by
  constructor
  · exact fun h tl htl => updateValues_values h htl
  · intro h
    cases htl : a.timeline? a.state with
    | none => exact updateValues_of_none htl
    | some tl => exact updateValues_of_some htl (h tl htl)

theorem advanceNs_eq_ok {a a' : Animator α} {ns : Nat} :
    a.advanceNs ns = .ok a' ↔
      a.stateNs + ns < durationMaxNs ∧ updateValues { a with stateNs := a.stateNs + ns } = .ok a' := by
  fun_cases advanceNs a ns with
  | case1 h => simp [Nat.not_lt.2 h]
  | case2 h => simp [Nat.lt_of_not_le h]

theorem advanceNs_shape {a a' : Animator α} {ns : Nat} (h : a.advanceNs ns = .ok a') :
    ∃ v, a' = { a with stateNs := a.stateNs + ns, values := v } :=
  updateValues_shape (advanceNs_eq_ok.1 h).2

theorem advanceNs_of_none {a a' : Animator α} {ns : Nat} (h : a.advanceNs ns = .ok a')
    (htl : a.timeline? a.state = none) : a' = { a with stateNs := a.stateNs + ns } :=
  Except.ok.inj ((advanceNs_eq_ok.1 h).2.symm.trans
    (updateValues_of_none (a := { a with stateNs := a.stateNs + ns }) htl))

theorem advanceNs_values {a a' : Animator α} {ns : Nat} {tl : Merged α} (h : a.advanceNs ns = .ok a')
    (htl : a.timeline? a.state = some tl) :
    tl.update a.values (Num.secsOfNanos (a.stateNs + ns)) = .ok a'.values :=
  updateValues_values (a := { a with stateNs := a.stateNs + ns }) (advanceNs_eq_ok.1 h).2 htl

theorem setState_of_ne {a : Animator α} {s : Nat} (h : s ≠ a.state) :
    a.setState s = (a.switchTo s).updateValues := by
  unfold setState; rw [if_neg (by simpa using h)]

theorem setState_eq_ok {a a' : Animator α} {s : Nat} (h : a.setState s = .ok a') :
    s = a.state ∧ a' = a ∨ s ≠ a.state ∧ (a.switchTo s).updateValues = .ok a' := by
  revert h
  fun_cases setState a s with
  | case1 he => intro h; cases h; exact .inl ⟨eq_of_beq he, rfl⟩
  | case2 hne => exact fun h => .inr ⟨mt beq_iff_eq.2 hne, h⟩

theorem setState_shape {a a' : Animator α} {s : Nat} (hne : s ≠ a.state) (h : a.setState s = .ok a') :
    ∃ v, a' = { a.switchTo s with values := v } :=
  updateValues_shape (setState_of_ne hne ▸ h)

theorem step_eq_ok {a a' : Animator α} {op : AnimOp α} (h : a.step op = .ok a') :
    (∃ ns, a.advanceNs ns = .ok a') ∨ ∃ s, a.setState s = .ok a' := by
  cases op with
  | advanceNs ns => exact .inl ⟨ns, h⟩
  | setState s => exact .inr ⟨s, h⟩
  | advance secs =>
    simp only [step, advance] at h
    split at h
    · exact .inl ⟨_, h⟩
    · cases h

theorem run_cons_eq_ok {a a' : Animator α} {op : AnimOp α} {ops : List (AnimOp α)} :
    a.run (op :: ops) = .ok a' ↔ ∃ a1, a.step op = .ok a1 ∧ a1.run ops = .ok a' := by
  simp only [run]
  cases a.step op <;> simp

theorem run_induction {I : Animator α → Prop} (hstep : ∀ a a' op, I a → a.step op = .ok a' → I a')
    {a a' : Animator α} {ops : List (AnimOp α)} (ha : I a) (h : a.run ops = .ok a') : I a' := by
  induction ops generalizing a with
  | nil => cases h; exact ha
  | cons op ops ih =>
    obtain ⟨a1, h1, h⟩ := run_cons_eq_ok.1 h
    exact ih (hstep a a1 op ha h1) h

theorem run_append {a b : Animator α} {ops : List (AnimOp α)} (h : a.run ops = .ok b) (ops' : List (AnimOp α)) :
    a.run (ops ++ ops') = b.run ops' := by
  induction ops generalizing a with
  | nil => cases h; rfl
  | cons op ops ih =>
    obtain ⟨a1, h1, h⟩ := run_cons_eq_ok.1 h
    simp only [List.cons_append, run, h1]
    exact ih h

theorem All.advanceNs {Q : Merged α → Prop} {a a' : Animator α} {ns : Nat} (ha : a.All Q)
    (h : a.advanceNs ns = .ok a') : a'.All Q := by
  obtain ⟨v, rfl⟩ := advanceNs_shape h; exact ha

theorem All.step {Q : Merged α → Prop} {a a' : Animator α} {op : AnimOp α} (ha : a.All Q)
    (hQ : ∀ m, Q m → Q (m.startWith a.values)) (h : a.step op = .ok a') : a'.All Q := by
  rcases step_eq_ok h with ⟨ns, h⟩ | ⟨s, h⟩
  · exact ha.advanceNs h
  · rcases setState_eq_ok h with ⟨-, rfl⟩ | ⟨-, h⟩
    · exact ha
    · obtain ⟨v, rfl⟩ := updateValues_shape h
      exact ha.switchTo hQ s

theorem All.run {Q : Merged α → Prop} {a a' : Animator α} {ops : List (AnimOp α)} (ha : a.All Q)
    (hQ : ∀ m w, Q m → Q (m.startWith w)) (h : a.run ops = .ok a') : a'.All Q :=
  run_induction (fun _ _ _ ha h => ha.step (fun m => hQ m _) h) ha h

end Animator
