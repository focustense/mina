import Mathlib.Data.List.Basic
/-!
# A greatest value over a list, and the folds that select one

`Iterator::min_by`, `max_by` and `max` are all `xs.foldl pick x` for a `pick` that returns whichever of its two
arguments the other is below; which of two equivalent ones it keeps (the first or the last) does not matter here.
The result is a greatest element of `x :: xs`. "A greatest value of `f` over `l`" (`IsGreatestOn`) is then all that the
merged-timeline theorems use: such values are unique up to equivalence, and a greatest one among the greatest of
each part is a greatest one of the whole (`IsGreatestOn.flatMap`).

The cycle durations are folded differently: `reduce` with a step that yields a value only from two copies of it
(`foldl_eq_iff_forall`) and for which "no common value" is absorbing (`foldl_absorb`).
-/

variable {β γ ι : Type} {le : β → β → Prop}

/-- the hypothesis of `foldl_pick_max` for `if c then a else b` -/
theorem ite_pick {c : Prop} [Decidable c] {a b : β} (h1 : c → le b a) (h2 : ¬c → le a b) :
    (if c then a else b) = a ∧ le b a ∨ (if c then a else b) = b ∧ le a b :=
  if h : c then .inl ⟨if_pos h, h1 h⟩ else .inr ⟨if_neg h, h2 h⟩

theorem foldl_pick_max {pick : β → β → β} (hpick : ∀ a b, pick a b = a ∧ le b a ∨ pick a b = b ∧ le a b)
    (refl : ∀ a, le a a) (trans : ∀ {a b c}, le a b → le b c → le a c) (xs : List β) (x : β) :
    (∀ y ∈ x :: xs, le y (xs.foldl pick x)) ∧ xs.foldl pick x ∈ x :: xs := by
  induction xs generalizing x with
  | nil => exact ⟨fun y hy => List.mem_singleton.1 hy ▸ refl x, List.mem_singleton.2 rfl⟩
  | cons z zs ih =>
    obtain ⟨h1, h2⟩ := ih (pick x z)
    rw [List.forall_mem_cons] at h1
    rw [List.foldl_cons, List.forall_mem_cons, List.forall_mem_cons]
    -- the fold goes on from whichever of `x`, `z` was picked, and the other one is below it
    rcases hpick x z with ⟨e, h⟩ | ⟨e, h⟩ <;> rw [e] at h1 h2 ⊢
    · exact ⟨⟨h1.1, trans h h1.1, h1.2⟩, List.mem_cons.2 ((List.mem_cons.1 h2).imp_right (List.mem_cons_of_mem z))⟩
    · exact ⟨⟨trans h h1.1, h1⟩, List.mem_cons_of_mem _ h2⟩

def IsGreatestOn (le : β → β → Prop) (f : γ → β) (l : List γ) (u : β) : Prop :=
  (∀ t ∈ l, le (f t) u) ∧ ∃ t ∈ l, u = f t

theorem IsGreatestOn.of_map {f : γ → β} {l : List γ} {u : β} (h : (∀ y ∈ l.map f, le y u) ∧ u ∈ l.map f) :
    IsGreatestOn le f l u :=
  ⟨fun _ ht => h.1 _ (List.mem_map_of_mem ht), (List.mem_map.1 h.2).imp fun _ ht => ⟨ht.1, ht.2.symm⟩⟩

theorem IsGreatestOn.le_of {f : γ → β} {l : List γ} {u v : β} (hu : IsGreatestOn le f l u) (hv : IsGreatestOn le f l v) :
    le u v := by
  obtain ⟨t, ht, rfl⟩ := hu.2
  exact hv.1 t ht

theorem IsGreatestOn.flatMap {parts : List ι} {leaves : ι → List γ} {g : ι → β} {f : γ → β} {u : β}
    (hin : ∀ p ∈ parts, IsGreatestOn le f (leaves p) (g p)) (hout : IsGreatestOn le g parts u)
    (trans : ∀ {a b c}, le a b → le b c → le a c) : IsGreatestOn le f (parts.flatMap leaves) u := by
  constructor
  · intro t ht
    obtain ⟨p, hp, htp⟩ := List.mem_flatMap.1 ht
    exact trans ((hin p hp).1 t htp) (hout.1 p hp)
  · obtain ⟨p, hp, rfl⟩ := hout.2
    obtain ⟨t, ht, e⟩ := (hin p hp).2
    exact ⟨t, List.mem_flatMap.2 ⟨p, hp, ht⟩, e⟩

theorem foldl_eq_iff_forall {f : β → β → β} {c : β} (hf : ∀ a b, f a b = c ↔ a = c ∧ b = c) (xs : List β) (x : β) :
    xs.foldl f x = c ↔ ∀ y ∈ x :: xs, y = c := by
  induction xs generalizing x with
  | nil => rw [List.foldl_nil, List.forall_mem_singleton]
  | cons y ys ih =>
    rw [List.foldl_cons, ih, List.forall_mem_cons, hf, and_assoc, List.forall_mem_cons, List.forall_mem_cons]

theorem foldl_absorb {f : β → β → β} {z : β} (hl : ∀ b, f z b = z) (hr : ∀ a, f a z = z) {xs : List β} {x : β}
    (h : z ∈ x :: xs) : xs.foldl f x = z := by
  rcases List.mem_cons.1 h with rfl | h
  · exact List.foldl_fixed' hl xs
  · obtain ⟨as, bs, rfl⟩ := List.append_of_mem h
    rw [List.foldl_append, List.foldl_cons, hr, List.foldl_fixed' hl]
