import MinaProofs.Lemmas.Sort
import MinaProofs.Props.C01
/-!
# Builder-built timelines

`BuiltLike cfg tl`: `tl` is `Timeline.build fields cfg` after any number of `start_with` calls. Proofs about
evaluating such a timeline see it through `BuiltLike.sub`: every sub-timeline is a `builtSub` of a keyframe list
that is sorted, lies in [0, 1] and has the timeline's boundary times as its positions — what the lookup theorem
`valueAt_bracket` asks for, with the hint `prepare_frame` computes (`hintOK_of_times`). Arithmetic: exact (ℚ).
-/

/-- what the builder accepts and the properties quantify over: duration > 0, positions in [0, 1] -/
structure BuiltCfg (cfg : Config ℚ) : Prop where
  dur_pos : 0 < cfg.duration
  pos_unit : ∀ k ∈ cfg.keyframes, 0 ≤ k.time ∧ k.time ≤ 1

/-- a timeline obtained from `Timeline.build fields cfg` by any number of `start_with` calls -/
structure BuiltLike (cfg : Config ℚ) (tl : Timeline ℚ) : Prop where
  boundary : tl.boundary = (sortKfs cfg.keyframes).map (·.time)
  ts : tl.ts = ⟨cfg.delay, cfg.duration, cfg.repeat_, cfg.reverse⟩
  subs : ∀ p ∈ tl.subs, ∃ j d ov, p.2 = builtSub ((sortKfs cfg.keyframes).map (·.forField j)) d cfg.easing ov

theorem build_builtLike (fields : List (AnimField ℚ)) (cfg : Config ℚ) : BuiltLike cfg (Timeline.build fields cfg) :=
  ⟨rfl, rfl, List.forall_mem_map.2 fun p _ => ⟨p.2, p.1.dflt, none, rfl⟩⟩

theorem startWith_builtLike {cfg : Config ℚ} {tl : Timeline ℚ} (w : List (Val ℚ)) (h : BuiltLike cfg tl) :
    BuiltLike cfg (tl.startWith w) := by
  refine ⟨h.boundary, h.ts, ?_⟩
  intro p hp
  obtain ⟨s, hmem, hcase⟩ := mem_startWith_subs hp
  obtain ⟨j, d, ov, hs⟩ := h.subs _ hmem
  dsimp only at hs
  rcases hcase with ⟨_, hp2⟩ | ⟨x, _, hp2⟩
  · exact ⟨j, d, ov, hp2.trans hs⟩
  · exact ⟨j, d, some x, by rw [hp2, hs]; exact builtSub_overrideStart _ d cfg.easing ov x⟩

theorem fold_startWith_builtLike (cfg : Config ℚ) (ws : List (List (Val ℚ))) (tl : Timeline ℚ) (h : BuiltLike cfg tl) :
    BuiltLike cfg (ws.foldl (fun acc w => acc.startWith w) tl) := by
  induction ws generalizing tl with
  | nil => exact h
  | cons w rest ih => exact ih _ (startWith_builtLike w h)

/-- all that evaluation needs to know of a sub-timeline of a built timeline -/
theorem BuiltLike.sub {cfg : Config ℚ} {tl : Timeline ℚ} (hc : BuiltCfg cfg) (h : BuiltLike cfg tl) {p : Nat × SubTl ℚ}
    (hp : p ∈ tl.subs) : ∃ ks d ov, p.2 = builtSub ks d cfg.easing ov ∧ KfOK ks ∧ ks.map (·.time) = tl.boundary := by
  obtain ⟨j, d, ov, hs⟩ := h.subs p hp
  have hpos : ∀ k ∈ (sortKfs cfg.keyframes).map (·.forField j), 0 ≤ k.time ∧ k.time ≤ 1 :=
    List.forall_mem_map.2 fun k hk => hc.pos_unit k ((mem_sortKfs k _).1 hk)
  exact ⟨_, d, ov, hs,
    ⟨List.pairwise_map.2 (sortKfs_sorted cfg.keyframes), fun k hk => (hpos k hk).1, fun k hk => (hpos k hk).2⟩,
    by rw [h.boundary]; simp [List.map_map, Function.comp_def, Keyframe.forField]⟩

/-- the hint `prepare_frame` finds in the boundary times meets the lookup contract of every per-property list -/
theorem hintOK_of_times {ks : List (PKeyframe ℚ)} {bt : List ℚ} (hok : KfOK ks) (ht : ks.map (·.time) = bt) (hne : bt ≠ [])
    (s : ℚ) : HintOK ks s (searchIdx bt s) := by
  subst ht
  exact C01.search_contract ks hok (by rintro rfl; exact hne rfl) s
