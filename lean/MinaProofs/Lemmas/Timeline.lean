import MinaProofs.Lemmas.RatNum
import MinaModel.Timeline
/-!
# Small facts about the generated `update`, `override_start_value`, `start_with` and the builder's sort
(generic in the number type): when `applySubs` leaves the target alone, the empty sub-timeline, what
`overrideStart` / `startWith` do to a sub-timeline, `sortKfs` as a permutation
-/

variable {α : Type} [Num α]

theorem applySubs_fix {subs : List (Nat × SubTl α)} {t : α} {idx : Nat} {ovr : Bool} {target : List (Val α)}
    (h : ∀ p ∈ subs, p.2.valueAt t idx ovr = none ∨ ∃ w, target[p.1]? = some w ∧ p.2.valueAt t idx ovr = some (.ok w)) :
    applySubs subs t idx ovr target = .ok target := by
  induction subs with
  | nil => rfl
  | cons p rest ih =>
    obtain ⟨hp, hrest⟩ := List.forall_mem_cons.1 h
    rw [applySubs.eq_def]
    rcases hp with hn | ⟨w, hw, hv⟩
    · simp only [hn]; exact ih hrest
    · -- the value written is the one already there
      obtain ⟨hi, rfl⟩ := List.getElem?_eq_some_iff.1 hw
      simp only [hv, List.set_getElem_self hi]; exact ih hrest

/-- if every sub-timeline yields `none`, nothing is written at all -/
theorem applySubs_all_none (subs : List (Nat × SubTl α)) (t : α) (idx : Nat) (ovr : Bool) (target : List (Val α))
    (h : ∀ p ∈ subs, p.2.valueAt t idx ovr = none) : applySubs subs t idx ovr target = .ok target :=
  applySubs_fix fun p hp => Or.inl (h p hp)

theorem empty_valueAt (t : α) (idx : Nat) (ovr : Bool) : (SubTl.empty : SubTl α).valueAt t idx ovr = none := by
  simp [SubTl.valueAt, SubTl.empty]

omit [Num α] in
theorem overrideStart_empty (v : Val α) : (SubTl.empty : SubTl α).overrideStart v = SubTl.empty := by
  simp [SubTl.overrideStart, SubTl.empty]

theorem overrideStart_valueAt_false (s : SubTl α) (v : Val α) (t : α) (idx : Nat) :
    (s.overrideStart v).valueAt t idx false = s.valueAt t idx false := by
  -- `getFrame _ false` never reads `startOverride`, the one field `overrideStart` sets
  fun_cases SubTl.overrideStart s v <;> rfl

omit [Num α] in
theorem overrideStart_overrideStart (s : SubTl α) (v w : Val α) :
    (s.overrideStart v).overrideStart w = s.overrideStart w := by
  cases h : s.frames.head? <;> simp [SubTl.overrideStart, h]

omit [Num α] in
theorem overrideStart_startOverride {s : SubTl α} {v : Val α} {f : Frame α} (h : (s.overrideStart v).startOverride = some f) :
    f.value = v ∨ s.startOverride = some f := by
  unfold SubTl.overrideStart at h
  split at h
  · left; cases h; rfl
  · exact Or.inr h

omit [Num α] in
theorem mem_startWith_subs {tl : Timeline α} {w : List (Val α)} {p : Nat × SubTl α} (hp : p ∈ (tl.startWith w).subs) :
    ∃ s, (p.1, s) ∈ tl.subs ∧ ((w[p.1]? = none ∧ p.2 = s) ∨ ∃ x, w[p.1]? = some x ∧ p.2 = s.overrideStart x) := by
  obtain ⟨⟨i, s⟩, hmem, rfl⟩ := List.mem_map.1 hp
  dsimp only
  split
  next x hw => exact ⟨s, hmem, Or.inr ⟨x, hw, rfl⟩⟩
  next hw => exact ⟨s, hmem, Or.inl ⟨hw, rfl⟩⟩

theorem sortKfs_cons (k : Keyframe α) (l : List (Keyframe α)) : sortKfs (k :: l) = insertKf k (sortKfs l) := rfl

theorem insertKf_perm (k : Keyframe α) (l : List (Keyframe α)) : (insertKf k l).Perm (k :: l) := by
  fun_induction insertKf k l with
  | case1 => exact .refl _
  | case2 h t hlt ih => exact (ih.cons h).trans (.swap k h t)
  | case3 => exact .refl _

theorem sortKfs_perm (l : List (Keyframe α)) : (sortKfs l).Perm l := by
  induction l with
  | nil => exact .refl _
  | cons h t ih => exact (insertKf_perm h _).trans (ih.cons h)

theorem mem_sortKfs (x : Keyframe α) (l : List (Keyframe α)) : x ∈ sortKfs l ↔ x ∈ l :=
  (sortKfs_perm l).mem_iff

omit [Num α] in
theorem startWith_subs_fst (tl : Timeline α) (vs : List (Val α)) :
    (tl.startWith vs).subs.map Prod.fst = tl.subs.map Prod.fst := by
  simp only [Timeline.startWith, List.map_map]
  apply List.map_congr_left
  intro p _
  obtain ⟨i, s⟩ := p
  simp only [Function.comp]
  split <;> rfl
