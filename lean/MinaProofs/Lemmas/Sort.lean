import MinaProofs.Lemmas.Timeline
import Mathlib.Data.List.Sort
/-!
# The builder's stable sort (`sortKfs`) at ℚ

It is Mathlib's `List.insertionSort` for `kfLe`: sorted, a fixpoint on sorted lists, and unique for distinct positions.
-/

def kfLe (a b : Keyframe ℚ) : Prop := a.time ≤ b.time

instance : DecidableRel kfLe := fun a b => inferInstanceAs (Decidable (a.time ≤ b.time))
instance : Std.Total kfLe := ⟨fun a b => le_total a.time b.time⟩
instance : IsTrans (Keyframe ℚ) kfLe := ⟨fun _ _ _ => le_trans⟩

theorem insertKf_eq_orderedInsert (k : Keyframe ℚ) (l : List (Keyframe ℚ)) : insertKf k l = l.orderedInsert kfLe k := by
  fun_induction insertKf k l with
  | case1 => rfl
  | case2 x t hlt ih => rw [List.orderedInsert_cons, ih, if_neg (show ¬ kfLe k x from not_le.2 hlt)]
  | case3 x t hge => rw [List.orderedInsert_cons, if_pos (show kfLe k x from not_lt.1 hge)]

theorem sortKfs_eq_insertionSort (l : List (Keyframe ℚ)) : sortKfs l = l.insertionSort kfLe := by
  induction l with
  | nil => rfl
  | cons k l ih => rw [sortKfs_cons, ih, insertKf_eq_orderedInsert, List.insertionSort_cons]

theorem sortKfs_sorted (l : List (Keyframe ℚ)) : (sortKfs l).Pairwise kfLe :=
  sortKfs_eq_insertionSort l ▸ List.pairwise_insertionSort kfLe l

/-- sorting is idempotent on an already sorted list (the builder's output order is canonical) -/
theorem sortKfs_of_sorted (l : List (Keyframe ℚ)) (h : l.Pairwise kfLe) : sortKfs l = l :=
  (sortKfs_eq_insertionSort l).trans h.insertionSort_eq

theorem sortKfs_perm_invariant {l₁ l₂ : List (Keyframe ℚ)} (hp : l₁.Perm l₂)
    (hd : l₁.Pairwise (fun a b => a.time ≠ b.time)) : sortKfs l₁ = sortKfs l₂ := by
  refine List.Perm.eq_of_pairwise (le := kfLe) (fun a b ha hb hab hba => ?_) (sortKfs_sorted l₁) (sortKfs_sorted l₂)
    ((sortKfs_perm l₁).trans (hp.trans (sortKfs_perm l₂).symm))
  -- on the members of `l₁`, `kfLe` is antisymmetric: distinct keyframes have distinct positions
  exact List.inj_on_of_nodup_map (List.pairwise_map.2 hd) ((mem_sortKfs a l₁).1 ha)
    (hp.symm.subset ((mem_sortKfs b l₂).1 hb)) (le_antisymm hab hba)
