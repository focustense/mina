import MinaProofs.Lemmas.RatNum
import MinaModel.TimeScale
/-!
# `TimeScale.position` at ℚ in normal form

`position_eq` says what `get_position` returns in one equation: not started before the delay, terminal past
the reported total duration, otherwise `cyclePos` of the cycle time `loopCycle`, whose position is the triangular fold
`tri` of `loopCycle / duration` (`cyclePos_eq`). The non-repeating arm takes the time itself, which on the one pass it
has is `loopCycle` of it (`loopCycle_of_le`), so the equation needs no case for it. Everything the properties say about
positions at ℚ is read off that equation and the few facts about `loopCycle` below.
`TimeScale.position_cases` is the bare case analysis, for the number systems that have no such normal form.
-/

/-- the four shapes `get_position` returns — not started, ended, the single pass, the repeating arm — in any number
system (which arm of `repeat_` was taken is forgotten) -/
theorem TimeScale.position_cases {α : Type} [Num α] (ts : TimeScale α) (t : α) {P : Pos α → Prop}
    (hns : t - ts.delay < lit 0 → P .notStarted) (hend : ¬ t - ts.delay < lit 0 → P ts.positionEnded)
    (hone : ¬ t - ts.delay < lit 0 → ¬ ts.duration < t - ts.delay → P (ts.cyclePos (t - ts.delay) false))
    (hloop : ¬ t - ts.delay < lit 0 → P (ts.loopPos (t - ts.delay))) : P (ts.position t) := by
  fun_cases TimeScale.position ts t with
  | case1 _ h => exact hns h
  | case2 _ h | case4 _ h => exact hend h
  | case3 _ h _ hd => exact hone h hd
  | case5 _ h | case6 _ h => exact hloop h

/-- the normalised position a `Pos` stands for (what `prepare_frame` uses) -/
def Pos.value : Pos ℚ → ℚ
  | .notStarted => 0
  | .active t _ _ => t
  | .ended t => t

def Pos.isEnded : Pos ℚ → Bool
  | .ended _ => true
  | _ => false

def Pos.isNotStarted : Pos ℚ → Bool
  | .notStarted => true
  | _ => false

/-- the reversing fold: ratio ↦ triangular wave -/
def tri (rev : Bool) (r : ℚ) : ℚ := if rev then (if 1 / 2 < r then (1 - r) * 2 else r * 2) else r

theorem tri_in_unit (rev : Bool) {r : ℚ} (h0 : 0 ≤ r) (h1 : r ≤ 1) : 0 ≤ tri rev r ∧ tri rev r ≤ 1 := by
  unfold tri
  split
  · split <;> constructor <;> linarith
  · exact ⟨h0, h1⟩

theorem tri_zero (rev : Bool) : tri rev 0 = 0 := by cases rev <;> norm_num [tri]
theorem tri_one (rev : Bool) : tri rev 1 = if rev then 0 else 1 := by cases rev <;> norm_num [tri]

theorem cyclePos_eq (ts : TimeScale ℚ) (c : ℚ) (b : Bool) :
    ts.cyclePos c b =
      .active (tri ts.reverse (c / ts.duration)) b (ts.reverse && decide (1 / 2 < c / ts.duration)) := by
  unfold TimeScale.cyclePos tri
  cases ts.reverse
  · rfl
  · simp only [lit_rat, Nat.cast_one, Nat.cast_ofNat, if_true, Bool.true_and]
    split <;> rename_i h <;> simp only [h, decide_true, decide_false]

/-- the cycle time chosen by the repeating arm -/
def loopCycle (d c : ℚ) : ℚ := if (fmod c d == (0 : ℚ)) && decide ((1 : ℚ) ≤ c / d) then d else fmod c d

theorem loopPos_eq (ts : TimeScale ℚ) (c : ℚ) :
    ts.loopPos c = ts.cyclePos (loopCycle ts.duration c) (decide (1 < c / ts.duration)) := by
  unfold TimeScale.loopPos loopCycle
  simp only [lit_rat, Nat.cast_one, Nat.cast_zero]
  split
  next => rfl
  next h =>
    -- off the hold case `1 ≤ c/d` and `1 < c/d` say the same: at `c/d = 1` the remainder is `c - d = 0`
    congr 1
    rw [decide_eq_decide, le_iff_lt_or_eq, or_iff_left]
    intro h1
    have hd : ts.duration ≠ 0 := by intro h0; rw [h0, div_zero] at h1; exact one_ne_zero h1
    have hc : c = ts.duration := by rw [eq_div_iff hd, one_mul] at h1; exact h1.symm
    apply h
    rw [fmod_rat, ← h1, hc, trunc_of_nonneg zero_le_one, Int.floor_one]
    simp

theorem loopCycle_bounds {d c : ℚ} (hd : 0 < d) (hc : 0 ≤ c) : 0 ≤ loopCycle d c ∧ loopCycle d c ≤ d := by
  have fb := fmod_bounds hc hd
  fun_cases loopCycle d c
  · exact ⟨hd.le, le_rfl⟩
  · exact ⟨fb.1, fb.2.le⟩

/-- the end of every pass is held: the cycle time at `k` whole cycles is `d`, not `0` -/
theorem loopCycle_mul {d : ℚ} (hd : 0 < d) {k : ℕ} (hk : 1 ≤ k) : loopCycle d (d * k) = d := by
  have h0 : (fmod (d * k) d : ℚ) = 0 := by simpa [fmod_of_lt le_rfl hd] using fmod_add_mul le_rfl hd k
  have : (1 : ℚ) ≤ d * k / d := by rw [mul_div_cancel_left₀ _ hd.ne']; exact_mod_cast hk
  simp [loopCycle, h0, this]

/-- within the first pass, its end included, the cycle time is the time itself (at `c = d` it is the held `d`) -/
theorem loopCycle_of_le {d c : ℚ} (hc : 0 ≤ c) (h : c ≤ d) : loopCycle d c = c := by
  rcases h.lt_or_eq with h | rfl
  · have : ¬ (1 : ℚ) ≤ c / d := not_le.2 ((div_lt_one (hc.trans_lt h)).2 h)
    simp [loopCycle, fmod_of_lt hc h, this]
  · -- `c = d`: one whole cycle, or the degenerate `d = 0`
    rcases hc.lt_or_eq with h0 | rfl
    · simpa using loopCycle_mul h0 (k := 1) le_rfl
    · simp [loopCycle, fmod_rat]

/-- period `d` from the first instant after the start on (at `c = 0` the left side is the held `d`) -/
theorem loopCycle_add_period {d c : ℚ} (hd : 0 < d) (hc : 0 < c) : loopCycle d (c + d) = loopCycle d c := by
  have h1 : (1 : ℚ) ≤ (c + d) / d := (one_le_div hd).2 (le_add_of_nonneg_left hc.le)
  -- a positive time with remainder 0 is at least one cycle
  have h2 (h0 : (fmod c d : ℚ) = 0) : (1 : ℚ) ≤ c / d := by
    rw [one_le_div hd]
    by_contra hlt
    exact hc.ne' (fmod_of_lt hc.le (not_le.1 hlt) ▸ h0)
  have hf : (fmod (c + d) d : ℚ) = fmod c d := by simpa using fmod_add_mul hc.le hd 1
  unfold loopCycle
  rw [hf]
  by_cases h0 : (fmod c d : ℚ) = 0
  · simp [h0, h1, h2 h0]
  · simp [h0]

/-- the reported total duration: a whole number of cycles after the delay, one more than the repeat count -/
theorem mem_totalDuration {ts : TimeScale ℚ} {T : ℚ} :
    T ∈ ts.totalDuration ↔ ts.repeat_ ≠ .infinite ∧ T = ts.delay + ts.duration * (ts.repeat_.ordinal + 1 : ℕ) := by
  unfold TimeScale.totalDuration
  cases ts.repeat_ <;> simp [eq_comm]

theorem le_totalDuration {ts : TimeScale ℚ} (hd : 0 < ts.duration) {T : ℚ} (hT : T ∈ ts.totalDuration) :
    ts.delay + ts.duration ≤ T := by
  obtain ⟨-, rfl⟩ := mem_totalDuration.1 hT
  exact add_le_add_right (le_mul_of_one_le_right hd.le (by simp)) _

theorem positionEnded_eq (ts : TimeScale ℚ) : ts.positionEnded = .ended (if ts.reverse then 0 else 1) := by
  unfold TimeScale.positionEnded
  cases ts.reverse <;> simp

theorem position_eq (ts : TimeScale ℚ) (t : ℚ) :
    ts.position t =
      if t < ts.delay then .notStarted
      else if ∃ T ∈ ts.totalDuration, T < t then ts.positionEnded
      else ts.cyclePos (loopCycle ts.duration (t - ts.delay))
        (decide (ts.repeat_ ≠ .none ∧ 1 < (t - ts.delay) / ts.duration)) := by
  unfold TimeScale.position TimeScale.totalDuration
  -- per arm of `repeat_`: the total duration is `delay + duration·(ordinal + 1)` (none for infinite), so `∃ T ∈ …, T < t`
  -- is the arm's own end test moved across the subtraction; `loopPos_eq` puts the repeating arms in `cyclePos` form
  cases ts.repeat_ <;>
    simp only [Repeat.ordinal, loopPos_eq, lit_rat, Nat.cast_zero, Nat.cast_one, sub_neg, zero_add, mul_one,
      Option.mem_def, Option.some.injEq, exists_eq_left', lt_sub_iff_add_lt', ne_eq, not_true, false_and,
      decide_false, reduceCtorEq, not_false_eq_true, true_and, exists_false, if_false]
  -- the single pass takes the time itself: between start and end that is `loopCycle` of it
  split_ifs with h1 h2
  · rfl
  · rfl
  · rw [loopCycle_of_le (sub_nonneg.2 (not_lt.1 h1)) (sub_le_iff_le_add'.2 (not_lt.1 h2))]

/-- the normalised position handed to the sub-timelines always lies in `[0, 1]` (duration > 0) -/
theorem position_value_unit (ts : TimeScale ℚ) (hd : 0 < ts.duration) (t : ℚ) :
    0 ≤ (ts.position t).value ∧ (ts.position t).value ≤ 1 := by
  rw [position_eq]
  split_ifs with h1 h2
  · exact ⟨le_rfl, zero_le_one⟩
  · rw [positionEnded_eq]; cases ts.reverse <;> simp [Pos.value]
  · obtain ⟨b0, b1⟩ := loopCycle_bounds hd (sub_nonneg.2 (not_lt.1 h1))
    rw [cyclePos_eq]
    exact tri_in_unit _ (div_nonneg b0 hd.le) ((div_le_one hd).2 b1)
