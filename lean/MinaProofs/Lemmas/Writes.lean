import MinaProofs.Lemmas.Timeline
/-!
# `update` as a list of writes that does not depend on the target

`Timeline.update tl target time` performs a sequence of `set i v` whose indices and values are a
function of `(tl, time)` only. Everything about purity, idempotence, overlay order and independence of
the prior target contents follows from this normal form. Generic in the number system.
-/

theorem Except.map_eq_ok {ε β γ : Type} {f : β → γ} {x : Except ε β} {c : γ} :
    x.map f = .ok c ↔ ∃ b, x = .ok b ∧ f b = c := by
  cases x with
  | error e => exact ⟨nofun, nofun⟩
  | ok b => exact ⟨fun h => ⟨b, rfl, Except.ok.inj h⟩, fun ⟨_, hb, h⟩ => Except.ok.inj hb ▸ congrArg Except.ok h⟩

variable {α : Type} [Num α]

def writesOf (subs : List (Nat × SubTl α)) (t : α) (idx : Nat) (ovr : Bool) : Except Panic (List (Nat × Val α)) :=
  match subs with
  | [] => .ok []
  | (i, s) :: rest =>
    match s.valueAt t idx ovr with
    | none => writesOf rest t idx ovr
    | some (.ok v) => (writesOf rest t idx ovr).map ((i, v) :: ·)
    | some (.error p) => .error p

def applyWrites (W : List (Nat × Val α)) (tgt : List (Val α)) : List (Val α) :=
  W.foldl (fun tg p => tg.set p.1 p.2) tgt

theorem applySubs_eq_writes (subs : List (Nat × SubTl α)) (t : α) (idx : Nat) (ovr : Bool) (tgt : List (Val α)) :
    applySubs subs t idx ovr tgt = (writesOf subs t idx ovr).map (fun W => applyWrites W tgt) := by
  fun_induction applySubs subs t idx ovr tgt with
  | case1 => rfl
  | case2 tgt i s rest hv ih => rw [writesOf, hv]; exact ih
  | case3 tgt i s rest v hv ih => rw [writesOf, hv, ih]; cases writesOf rest t idx ovr <;> rfl
  | case4 tgt i s rest p hv => rw [writesOf, hv]; rfl

/-- the writes a timeline performs at `time` -/
def Timeline.writes (tl : Timeline α) (time : α) : Except Panic (List (Nat × Val α)) :=
  match prepareFrame tl.ts tl.boundary time with
  | none => .ok []
  | some (t, idx, ovr) => writesOf tl.subs t idx ovr

theorem update_eq_writes (tl : Timeline α) (tgt : List (Val α)) (time : α) :
    tl.update tgt time = (tl.writes time).map (fun W => applyWrites W tgt) := by
  unfold Timeline.update Timeline.writes
  cases hp : prepareFrame tl.ts tl.boundary time with
  | none => rfl
  | some r =>
    obtain ⟨t, idx, ovr⟩ := r
    exact applySubs_eq_writes _ _ _ _ _

theorem update_ok_iff {tl : Timeline α} {tgt r : List (Val α)} {time : α} :
    tl.update tgt time = .ok r ↔ ∃ W, tl.writes time = .ok W ∧ applyWrites W tgt = r :=
  update_eq_writes tl tgt time ▸ Except.map_eq_ok

/-- the last value written to slot `k`, if any -/
def lastWrite (W : List (Nat × Val α)) (k : Nat) : Option (Val α) :=
  match W with
  | [] => none
  | p :: rest =>
    match lastWrite rest k with
    | some v => some v
    | none => if p.1 = k then some p.2 else none

omit [Num α] in
theorem applyWrites_length (W : List (Nat × Val α)) (tgt : List (Val α)) : (applyWrites W tgt).length = tgt.length := by
  induction W generalizing tgt with
  | nil => rfl
  | cons p rest ih => exact (ih (tgt.set p.1 p.2)).trans List.length_set

omit [Num α] in
theorem applyWrites_getElem? (W : List (Nat × Val α)) (tgt : List (Val α)) (k : Nat) :
    (applyWrites W tgt)[k]? = tgt[k]?.map (lastWrite W k).getD := by
  induction W generalizing tgt with
  | nil => show tgt[k]? = _; cases tgt[k]? <;> rfl
  | cons p rest ih =>
    rw [show applyWrites (p :: rest) tgt = applyWrites rest (tgt.set p.1 p.2) from rfl, ih, List.getElem?_set', lastWrite]
    by_cases hp : p.1 = k
    · rw [if_pos hp, if_pos hp]; cases tgt[k]? <;> cases lastWrite rest k <;> rfl
    · rw [if_neg hp, if_neg hp]; cases lastWrite rest k <;> rfl

omit [Num α] in
theorem applyWrites_getElem?_of_none {W : List (Nat × Val α)} {k : Nat} (h : lastWrite W k = none) (tgt : List (Val α)) :
    (applyWrites W tgt)[k]? = tgt[k]? := by
  rw [applyWrites_getElem?, h]; cases tgt[k]? <;> rfl

omit [Num α] in
theorem applyWrites_getElem?_congr (W : List (Nat × Val α)) {t1 t2 : List (Val α)} (hl : t1.length = t2.length) {k : Nat}
    (h : lastWrite W k = none → t1[k]? = t2[k]?) : (applyWrites W t1)[k]? = (applyWrites W t2)[k]? := by
  rw [applyWrites_getElem?, applyWrites_getElem?]
  cases hw : lastWrite W k with
  | none => rw [h hw]
  | some v =>
    -- a written slot holds `v` in both results, provided it exists
    rcases Nat.lt_or_ge k t1.length with hk | hk
    · rw [List.getElem?_eq_getElem hk, List.getElem?_eq_getElem (hl ▸ hk)]; rfl
    · rw [List.getElem?_eq_none hk, List.getElem?_eq_none (hl ▸ hk)]

omit [Num α] in
theorem applyWrites_congr (W : List (Nat × Val α)) {t1 t2 : List (Val α)} (hl : t1.length = t2.length)
    (h : ∀ k, lastWrite W k = none → t1[k]? = t2[k]?) : applyWrites W t1 = applyWrites W t2 :=
  List.ext_getElem? fun k => applyWrites_getElem?_congr W hl (h k)

omit [Num α] in
theorem applyWrites_absorb (W W' : List (Nat × Val α)) (tgt : List (Val α))
    (h : ∀ k, lastWrite W' k = none → lastWrite W k = none) :
    applyWrites W' (applyWrites W tgt) = applyWrites W' tgt :=
  applyWrites_congr W' (applyWrites_length W tgt) fun k hk => applyWrites_getElem?_of_none (h k hk) tgt

omit [Num α] in
theorem applyWrites_idem (W : List (Nat × Val α)) (tgt : List (Val α)) :
    applyWrites W (applyWrites W tgt) = applyWrites W tgt :=
  applyWrites_absorb W W tgt fun _ h => h

omit [Num α] in
theorem applyWrites_append (W1 W2 : List (Nat × Val α)) (tgt : List (Val α)) :
    applyWrites (W1 ++ W2) tgt = applyWrites W2 (applyWrites W1 tgt) := by
  simp [applyWrites, List.foldl_append]

omit [Num α] in
theorem lastWrite_append (W1 W2 : List (Nat × Val α)) (k : Nat) :
    lastWrite (W1 ++ W2) k = (lastWrite W2 k).or (lastWrite W1 k) := by
  induction W1 with
  | nil => exact Option.or_none.symm
  | cons p rest ih => rw [List.cons_append, lastWrite, ih, lastWrite]; cases lastWrite W2 k <;> rfl

omit [Num α] in
theorem lastWrite_eq_none_iff (W : List (Nat × Val α)) (k : Nat) : lastWrite W k = none ↔ k ∉ W.map Prod.fst := by
  induction W with
  | nil => simp [lastWrite]
  | cons p rest ih =>
    rw [List.map_cons, List.mem_cons, not_or, ← ih, lastWrite]
    cases lastWrite rest k <;> simp [eq_comm]

omit [Num α] in
theorem lastWrite_append_comm (W1 W2 : List (Nat × Val α)) (k : Nat)
    (h : k ∈ W1.map Prod.fst → k ∉ W2.map Prod.fst) : lastWrite (W1 ++ W2) k = lastWrite (W2 ++ W1) k := by
  rw [lastWrite_append, lastWrite_append]
  by_cases h1 : k ∈ W1.map Prod.fst
  · rw [(lastWrite_eq_none_iff W2 k).2 (h h1)]; exact Option.or_none.symm
  · rw [(lastWrite_eq_none_iff W1 k).2 h1]; exact Option.or_none

omit [Num α] in
theorem lastWrite_mem {W : List (Nat × Val α)} {k : Nat} {v : Val α} (h : lastWrite W k = some v) : (k, v) ∈ W := by
  fun_induction lastWrite W k with
  | case1 => cases h
  | case2 p rest w hr ih => cases h; exact List.mem_cons_of_mem _ (ih hr)
  | case3 p rest hr hp ih => cases h; subst hp; exact List.mem_cons_self
  | case4 => cases h

theorem mem_writesOf {subs : List (Nat × SubTl α)} {t : α} {idx : Nat} {ovr : Bool} {W : List (Nat × Val α)}
    (h : writesOf subs t idx ovr = .ok W) {i : Nat} {v : Val α} :
    (i, v) ∈ W ↔ ∃ s, (i, s) ∈ subs ∧ s.valueAt t idx ovr = some (.ok v) := by
  fun_induction writesOf subs t idx ovr generalizing W with
  | case1 => cases h; simp
  | case2 j s rest hv ih => simp [ih h, hv, or_and_right, exists_or]
  | case3 j s rest w hv ih =>
    obtain ⟨W', hW', rfl⟩ := Except.map_eq_ok.1 h
    simp [ih hW', hv, eq_comm, or_and_right, exists_or]
  | case4 => cases h

theorem writesOf_fst {subs : List (Nat × SubTl α)} {t : α} {idx : Nat} {ovr : Bool} {W : List (Nat × Val α)}
    (hw : writesOf subs t idx ovr = .ok W) :
    W.map Prod.fst = (subs.filter fun p => (p.2.valueAt t idx ovr).isSome).map Prod.fst := by
  fun_induction writesOf subs t idx ovr generalizing W with
  | case1 => cases hw; rfl
  | case2 j s rest hv ih => simp [hv, ih hw]
  | case3 j s rest w hv ih =>
    obtain ⟨W', hr, rfl⟩ := Except.map_eq_ok.1 hw
    simp [hv, ih hr]
  | case4 => cases hw

theorem writesOf_indices {subs : List (Nat × SubTl α)} {t : α} {idx : Nat} {ovr : Bool} {W : List (Nat × Val α)}
    (h : writesOf subs t idx ovr = .ok W) : ∀ i ∈ W.map Prod.fst, i ∈ subs.map Prod.fst :=
  writesOf_fst h ▸ (List.filter_sublist.map _).subset

theorem update_getElem?_cases {tl : Timeline α} {tgt res : List (Val α)} {time : α} (h : tl.update tgt time = .ok res) (i : Nat) :
    res[i]? = tgt[i]? ∨ ∃ t idx ovr s w, prepareFrame tl.ts tl.boundary time = some (t, idx, ovr) ∧ (i, s) ∈ tl.subs ∧
      s.valueAt t idx ovr = some (.ok w) ∧ res[i]? = some w := by
  obtain ⟨W, hW, rfl⟩ := update_ok_iff.1 h
  rw [applyWrites_getElem?]
  cases hl : lastWrite W i with
  | none => left; cases tgt[i]? <;> rfl
  | some v =>
    unfold Timeline.writes at hW
    split at hW
    next => cases hW; cases hl
    next t idx ovr hp =>
      obtain ⟨s, hs, hv⟩ := (mem_writesOf hW).1 (lastWrite_mem hl)
      cases tgt[i]? with
      | none => exact Or.inl rfl
      | some x => exact Or.inr ⟨t, idx, ovr, s, v, hp, hs, hv, rfl⟩

theorem update_getElem?_of_none {tl : Timeline α} {tgt res : List (Val α)} {time : α} (h : tl.update tgt time = .ok res)
    {i : Nat} (hi : ∀ t idx ovr s, prepareFrame tl.ts tl.boundary time = some (t, idx, ovr) → (i, s) ∈ tl.subs →
      s.valueAt t idx ovr = none) : res[i]? = tgt[i]? :=
  (update_getElem?_cases h i).resolve_right fun ⟨t, idx, ovr, s, _, hp, hs, hv, _⟩ => nomatch (hi t idx ovr s hp hs).symm.trans hv
