import MinaProofs.Lemmas.FramesSorted
import MinaProofs.Lemmas.Bounding
import MinaProofs.Props.C10Hints
/-!
# The lookup theorem: `value_at` interpolates between the frames that bracket the position

For a sorted keyframe list with positions in [0,1], any position `s ∈ [0,1]` and *any* master index the
keyframe search may return (`HintOK`), `value_at` yields the interpolation between two *adjacent* frames
`F[m], F[m+1]` with `F[m].time ≤ s ≤ F[m+1].time` (frame 0 replaced by the start override when enabled),
or the value of the last frame when `s` is at/after it.
`builtSub` is the sub-timeline this is about (built from keyframes, with or without a substituted start value); the
`builtSub_*` lemmas say what its frames, index map and override are, and that its frames are ordered by position.
-/
open Spec

/-- what `prepare_frame`'s search guarantees about the master index it hands to `value_at` -/
def HintOK (ks : List (PKeyframe ℚ)) (s : ℚ) (idx : Nat) : Prop :=
  ∃ p q, ks = p ++ q ∧ p.length = idx + 1 ∧
    (((∀ k ∈ p, k.time ≤ s) ∧ (∀ k ∈ q, s ≤ k.time)) ∨ (idx = 0 ∧ ∀ k ∈ ks, s < k.time))

/-- the sub-timeline as used: built from keyframes, optionally with a substituted start value -/
def builtSub (ks : List (PKeyframe ℚ)) (d : Val ℚ) (e0 : Easing) (ov : Option (Val ℚ)) : SubTl ℚ :=
  match ov with
  | none => SubTl.fromKeyframes ks d e0
  | some v => (SubTl.fromKeyframes ks d e0).overrideStart v

theorem builtSub_frames (ks : List (PKeyframe ℚ)) (d : Val ℚ) (e0 : Easing) (ov : Option (Val ℚ)) :
    (builtSub ks d e0 ov).frames = (SubTl.fromKeyframes ks d e0).frames ∧
    (builtSub ks d e0 ov).indexMap = (SubTl.fromKeyframes ks d e0).indexMap := by
  cases ov with
  | none => exact ⟨rfl, rfl⟩
  | some v => exact C10.overrideStart_frames _ v

theorem builtSub_overrideStart (ks : List (PKeyframe ℚ)) (d : Val ℚ) (e0 : Easing) (ov : Option (Val ℚ)) (w : Val ℚ) :
    (builtSub ks d e0 ov).overrideStart w = builtSub ks d e0 (some w) := by
  cases ov with
  | none => rfl
  | some u => exact overrideStart_overrideStart _ u w

theorem builtSub_startOverride_iff {ks : List (PKeyframe ℚ)} {d : Val ℚ} {e0 : Easing} {ov : Option (Val ℚ)}
    {fo : Frame ℚ} :
    (builtSub ks d e0 ov).startOverride = some fo ↔
      ∃ v f0, ov = some v ∧ (builtSub ks d e0 ov).frames[0]? = some f0 ∧ fo = ⟨f0.time, v, f0.easing⟩ := by
  rw [(builtSub_frames ks d e0 ov).1, ← List.head?_eq_getElem?]
  -- once `ov` and the head frame are known, both sides compute
  cases ov with
  | none => simp [builtSub, fromKeyframes_startOverride]
  | some v =>
    cases h : (SubTl.fromKeyframes ks d e0).frames.head? <;>
      simp [builtSub, SubTl.overrideStart, h, fromKeyframes_startOverride, eq_comm]

theorem builtSub_ovrOK (ks : List (PKeyframe ℚ)) (d : Val ℚ) (e0 : Easing) (ov : Option (Val ℚ)) :
    OvrOK (builtSub ks d e0 ov) := fun _ h => by
  obtain ⟨_, f0, -, hf0, rfl⟩ := builtSub_startOverride_iff.1 h
  exact ⟨f0, hf0, rfl, rfl⟩

theorem builtSub_of_reals_nil {ks : List (PKeyframe ℚ)} (d : Val ℚ) {e0 : Easing} (ov : Option (Val ℚ))
    (h : cssReals ks e0 = []) : builtSub ks d e0 ov = SubTl.empty := by
  unfold builtSub
  cases ov with
  | none => exact fromKeyframes_of_reals_nil d h
  | some v => simp only; rw [fromKeyframes_of_reals_nil d h, overrideStart_empty]

theorem builtSub_head_time {ks : List (PKeyframe ℚ)} (hok : KfOK ks) {d : Val ℚ} {e0 : Easing} {ov : Option (Val ℚ)}
    {f0 : Frame ℚ} (h : (builtSub ks d e0 ov).frames[0]? = some f0) : f0.time = 0 :=
  frames_head_time hok ((builtSub_frames ks d e0 ov).1 ▸ h)

section sorted
variable {ks : List (PKeyframe ℚ)} (hok : KfOK ks) {d : Val ℚ} {e0 : Easing} {ov : Option (Val ℚ)} {i j : Nat}
  {a b : Frame ℚ} (ha : (builtSub ks d e0 ov).frames[i]? = some a) (hb : (builtSub ks d e0 ov).frames[j]? = some b)
include hok ha hb

theorem builtSub_mono (hij : i ≤ j) : a.time ≤ b.time := by
  rw [(builtSub_frames ks d e0 ov).1] at ha hb
  obtain ⟨hi, rfl⟩ := List.getElem?_eq_some_iff.1 ha
  obtain ⟨hj, rfl⟩ := List.getElem?_eq_some_iff.1 hb
  rcases Nat.lt_or_eq_of_le hij with h | rfl
  · exact List.pairwise_iff_getElem.1 (frames_sorted hok d e0).1 i j hi hj h
  · exact le_rfl

theorem builtSub_lt_of_time_lt (h : a.time < b.time) : i < j :=
  lt_of_not_ge fun hji => not_le.2 h (builtSub_mono hok hb ha hji)

end sorted

theorem valueAt_bracket (ks : List (PKeyframe ℚ)) (hok : KfOK ks) (d : Val ℚ) (e0 : Easing)
    (hdata : cssReals ks e0 ≠ []) (ov : Option (Val ℚ)) (s : ℚ) (hs0 : 0 ≤ s) (hs1 : s ≤ 1)
    (idx : Nat) (hidx : HintOK ks s idx) (ovr : Bool) :
    Bracketed (builtSub ks d e0 ov) s ovr ((builtSub ks d e0 ov).valueAt s idx ovr) := by
  obtain ⟨p, q, rfl, hpl, hc⟩ := hidx
  obtain ⟨i, f, hi, hf, hle, hfrom, hlater⟩ := indexMap_spec d hdata hpl
  obtain ⟨hfr, him⟩ := builtSub_frames (p ++ q) d e0 ov
  rw [← him] at hi
  rw [← hfr] at hf hlater
  have hovr := builtSub_ovrOK (p ++ q) d e0 ov
  -- whichever way the hint is admissible, no later keyframe is before `s`, hence no later frame
  have hq : ∀ k ∈ q, s ≤ k.time := by
    rcases hc with ⟨_, h⟩ | ⟨_, h⟩
    · exact h
    · exact fun k hk => (h k (List.mem_append_right p hk)).le
  have h2 : ∀ g, (builtSub (p ++ q) d e0 ov).frames[i + 1]? = some g → s ≤ g.time := by
    intro g hg
    rcases hlater (i + 1) g (Nat.lt_succ_self i) hg with h | ⟨k, hk, h⟩
    · rw [h]; simpa using hs1
    · rw [h]; exact hq k hk
  have h0 : ∀ f0, (builtSub (p ++ q) d e0 ov).frames[0]? = some f0 → f0.time ≤ s :=
    fun f0 h => (builtSub_head_time hok h).trans_le hs0
  by_cases hfs : f.time ≤ s
  · exact bracketed_of_index hovr hs0 hs1 ovr hi hf hfs (Or.inl ⟨rfl, h2⟩)
  · -- the hinted frame lies after `s`. It is not frame 0, so it sits at a keyframe among `p`, and that one is after
    -- `s`: the hint is 0 with every keyframe after `s`. Then it is frame 1, and the lookup steps back to frame 0.
    have hipos : 0 < i := Nat.pos_of_ne_zero fun h => hfs (h0 f (h ▸ hf))
    obtain ⟨k, hk, hkt⟩ := hfrom hipos
    rcases hc with ⟨hp, _⟩ | ⟨rfl, _⟩
    · exact absurd (hkt ▸ hp k hk) hfs
    · have hi1 : i = 1 := by omega
      subst hi1
      obtain ⟨f0, hf0⟩ : ∃ f0, (builtSub (p ++ q) d e0 ov).frames[0]? = some f0 :=
        ⟨_, List.getElem?_eq_getElem (by have := (List.getElem?_eq_some_iff.1 hf).1; omega)⟩
      exact bracketed_of_index hovr hs0 hs1 ovr hi hf0 (h0 f0 hf0) (Or.inr ⟨f, rfl, hf, not_le.1 hfs⟩)
