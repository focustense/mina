import MinaProofs.Lemmas.RatNum
import MinaModel.Search
/-!
# The keyframe search meets its contract on sorted input

`prepare_frame` maps the result of `binary_search_by` to `Ok(i) ↦ i`, `Err(n) ↦ max(n,1) − 1`. For a
sorted, non-empty boundary list the resulting index `idx` satisfies: either everything up to `idx` is `≤ x` and
everything after `idx` is `≥ x`, or `idx = 0` and everything is `> x`. The lookup theorem needs nothing else, so it
survives any other search algorithm with the same contract.
-/

def searchIdx (bt : List ℚ) (x : ℚ) : Nat :=
  match binSearch bt x with
  | .ok i => i
  | .error n => max n 1 - 1

/-- The loop invariant of `binary_search_by` on a sorted slice: the entries from `base + size` on are above `x`, and
entry `base` is not, unless `base` never left 0. The answer (the last entry `≤ x`, if any) is in `[base, base + size)`. -/
def SearchWindow (a : List ℚ) (x : ℚ) (base size : Nat) : Prop :=
  base + size ≤ a.length ∧ (base = 0 ∨ a.getD base x ≤ x) ∧ ∀ j (h : j < a.length), base + size ≤ j → x < a[j]

theorem binSearchLoop_spec {a : List ℚ} (hs : a.Pairwise (· ≤ ·)) (x : ℚ) (fuel size base : Nat)
    (hsz : 1 ≤ size) (hfuel : size ≤ fuel + 1) (hw : SearchWindow a x base size) :
    SearchWindow a x (binSearchLoop a x fuel size base) 1 := by
  fun_induction binSearchLoop a x fuel size base with
  | case1 size base | case3 fuel size base hle =>
    -- the loop stops, out of fuel or at `size ≤ 1`: either way `size = 1`
    obtain rfl : size = 1 := by omega
    exact hw
  | case2 fuel size base hgt half mid base' ih =>
    obtain ⟨hbound, hlow, hup⟩ := hw
    -- all that is needed of `half = size / 2`; forgetting its value keeps the division out of the `omega` calls below
    have h : 1 ≤ half ∧ 2 * half ≤ size := by omega
    clear_value half
    simp only [base'] at ih ⊢
    split_ifs at ih ⊢ with hlt
    · -- entry `mid` is above `x`, and by sortedness so is every entry behind it
      refine ih (by omega) (by omega) ⟨by omega, hlow, fun j hj hl => hlt.trans_le ?_⟩
      rw [← List.getElem_eq_getD (h := by omega)]
      exact hs.rel_get_of_le (Fin.mk_le_mk.2 (by omega))
    · exact ih (by omega) (by omega) ⟨by omega, Or.inr (not_lt.1 hlt), fun j hj hl => hup j hj (by omega)⟩

theorem searchIdx_spec (bt : List ℚ) (x : ℚ) (hne : bt ≠ []) (hsorted : bt.Pairwise (· ≤ ·)) :
    searchIdx bt x < bt.length ∧
    (((∀ y ∈ bt.take (searchIdx bt x + 1), y ≤ x) ∧ (∀ y ∈ bt.drop (searchIdx bt x + 1), x ≤ y)) ∨
     (searchIdx bt x = 0 ∧ ∀ y ∈ bt, x < y)) := by
  obtain ⟨hb, hlow, hup⟩ := binSearchLoop_spec hsorted x bt.length bt.length 0 (List.length_pos_of_ne_nil hne) (by omega)
    ⟨by omega, Or.inl rfl, fun j hj hl => by omega⟩
  -- the index handed on is the loop's `b` in all three outcomes of the final comparison: `Err(b)` arises only when entry
  -- `b` is above `x`, and then `b = 0` (`hlow`), which `max b 1 - 1` leaves alone
  have hidx : searchIdx bt x = binSearchLoop bt x bt.length bt.length 0 := by
    unfold searchIdx binSearch
    simp only [beq_iff_eq, List.length_eq_zero_iff, hne, if_false]
    split_ifs with heq hlt
    · rfl
    · show max (_ + 1) 1 - 1 = _
      omega
    · rw [hlow.resolve_right fun h => heq (le_antisymm h (not_lt.1 hlt))]
      rfl
  rw [hidx]
  generalize binSearchLoop bt x bt.length bt.length 0 = b at hb hlow hup
  rw [← List.getElem_eq_getD (h := hb)] at hlow
  refine ⟨hb, ?_⟩
  by_cases hle : bt[b] ≤ x
  · refine Or.inl ⟨fun y hy => ?_, fun y hy => ?_⟩
    · obtain ⟨j, hj, rfl⟩ := List.mem_take_iff_getElem.1 hy
      exact (hsorted.rel_get_of_le (Fin.mk_le_mk.2 (by omega))).trans hle
    · obtain ⟨j, hj, rfl⟩ := List.mem_drop_iff_getElem.1 hy
      exact (hup _ _ (by omega)).le
  · -- entry `b` is above `x`: the loop never moved, and entry 0 is the least
    obtain rfl := hlow.resolve_right hle
    exact Or.inr ⟨rfl, List.forall_mem_iff_getElem.2 fun j hj =>
      (not_le.1 hle).trans_le (hsorted.rel_get_of_le (Fin.mk_le_mk.2 j.zero_le))⟩
