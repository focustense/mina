import MinaProofs.Props.C07
/-! GENERATED by ./check: axiom audit of every theorem in Props/C07*.lean -/
#print axioms C07.is_ended_iff
#print axioms C07.never_ended_if_any_infinite
#print axioms C07.duration_is_max
#print axioms C07.secs_le_add
#print axioms C07.ended_stays
#print axioms C07.merged_rest
#print axioms C07.ended_values_rest
