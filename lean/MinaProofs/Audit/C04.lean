import MinaProofs.Props.C04
import MinaProofs.Props.C04Float
/-! GENERATED by ./check: axiom audit of every theorem in Props/C04*.lean -/
#print axioms C04.set_same_state_noop
#print axioms C04.TlOK.blend
#print axioms C04.TlOK.closed
#print axioms C04.tlOK_startWith
#print axioms C04.tlOK_of_closed
#print axioms C04.merged_startWith_last_wins
#print axioms C04.merged_update_length
#print axioms C04.good_initial
#print axioms C04.set_state_no_jump
#print axioms C04.good_advanceNs
#print axioms C04.good_step
#print axioms C04.good_run
#print axioms C04.reachable_good
#print axioms C04.no_jump_after_any_history
#print axioms C04.tlOK_of_blend_law
#print axioms C04.FloatAnimatorCfg.tlOK
#print axioms C04.no_jump_float_animator
#print axioms C04.values_follow_timeline_float
#print axioms C04.KindAnimatorCfg.merged
#print axioms C04.reachable_good_merged
#print axioms C04.no_jump_merged_animator
#print axioms C04.no_jump_built_animator
#print axioms C04.reachable_good_built
