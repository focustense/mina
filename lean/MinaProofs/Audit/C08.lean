import MinaProofs.Props.C08
/-! GENERATED by ./check: axiom audit of every theorem in Props/C08*.lean -/
#print axioms C08.build_animated_indices
#print axioms C08.update_untouched
#print axioms C08.update_length
#print axioms C08.no_keyframes_noop
#print axioms C08.property_without_keyframe_untouched
#print axioms C08.merged_update_keeps
#print axioms C08.merged_update_fix
#print axioms C08.merged_untouched
#print axioms C08.notAnimated_iff
#print axioms C08.timeline?_mem
#print axioms C08.startWith_notAnimated
#print axioms C08.notAnimated_blendNext
#print axioms C08.blendNext_values
#print axioms C08.notePause_values
#print axioms C08.switchTo_values
#print axioms C08.updateValues_untouched
#print axioms C08.step_untouched
#print axioms C08.animator_untouched
