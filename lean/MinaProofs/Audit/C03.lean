import MinaProofs.Props.C03
import MinaProofs.Props.C03Defaults
import MinaProofs.Props.C03Rne
import MinaProofs.Props.C03Rounded
/-! GENERATED by ./check: axiom audit of every theorem in Props/C03*.lean -/
#print axioms C03.not_started_iff
#print axioms C03.pos_in_unit
#print axioms C03.total_duration
#print axioms C03.ended_iff_past_total
#print axioms C03.ended_iff
#print axioms C03.metadata_agrees
#print axioms C03.ended_value
#print axioms C03.running_value
#print axioms C03.active_value
#print axioms C03.first_cycle
#print axioms C03.linear_first_cycle
#print axioms C03.triangular_first_cycle
#print axioms C03.tri_mirror
#print axioms C03.mirror_first_cycle
#print axioms C03.fmod_add_period
#print axioms C03.periodic_after_delay
#print axioms C03.periodic
#print axioms C03.hold_at_cycle_end
#print axioms C03.metadata_as_configured
#print axioms C03.default_timescale_as_documented
#print axioms C03.pos_in_unit_binary32
#print axioms C03.cyclePos_in_unit
#print axioms C03.loopPos_in_unit
#print axioms C03.ended_in_unit
#print axioms C03.pos_in_unit_any_rounding
