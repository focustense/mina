import MinaProofs.Props.C13
import MinaProofs.Props.C13Rne
import MinaProofs.Props.C13Rounded
/-! GENERATED by ./check: axiom audit of every theorem in Props/C13*.lean -/
#print axioms C13.bezY_poly
#print axioms C13.bezY_zero
#print axioms C13.bezY_one
#print axioms C13.ease_zero
#print axioms C13.ease_one
#print axioms C13.linear_is_id
#print axioms C13.custom_used_as_given
#print axioms C13.ease_is_parametric
#print axioms C13.ctrl_rat
#print axioms C13.mem_all
#print axioms C13.easingTable_eq_published
#print axioms C13.nonBack_control_ys_ordered
#print axioms C13.bezY_cumulative
#print axioms C13.cumulative_mono
#print axioms C13.bezY_mono
#print axioms C13.bezY_in_unit
#print axioms C13.ctrl_bounds
#print axioms C13.ctrl_mono
#print axioms C13.ease_mono
#print axioms C13.ease_in_unit
#print axioms C13.table_pairs_mirrored
#print axioms C13.table_self_mirrored
#print axioms C13.bezY_mirror
#print axioms C13.ctrl_sub
#print axioms C13.mirrored_point_mirror
#print axioms C13.timing_function_refuted
#print axioms C13.endpoints_exact_f32
#print axioms C13.ease_endpoints_binary32
#print axioms C13.bezY_zero_any_rounding
#print axioms C13.bezY_one_any_rounding
#print axioms C13.ease_zero_any_rounding
#print axioms C13.ease_one_any_rounding
