import MinaProofs.Props.C14
import MinaProofs.Props.C14Quat
import MinaProofs.Props.C14Rne
import MinaProofs.Props.C14Rounded
/-! GENERATED by ./check: axiom audit of every theorem in Props/C14*.lean -/
#print axioms C14.lerp_eq_real
#print axioms C14.lerp_at_zero
#print axioms C14.lerp_at_one
#print axioms C14.lerp_same
#print axioms C14.lerp_mono
#print axioms C14.lerp_anti
#print axioms C14.lerp_between
#print axioms C14.lerpInt_eq
#print axioms C14.roundInt_lerp_between
#print axioms C14.lerpInt_is_rounded
#print axioms C14.lerpInt_between
#print axioms C14.lerpInt_at_zero
#print axioms C14.lerpInt_at_one
#print axioms C14.lerpInt_same
#print axioms C14.lerpInt_mono
#print axioms C14.val_lerp_num
#print axioms C14.val_lerp_int
#print axioms C14.vec_componentwise
#print axioms C14.dotSse_eq_dotScalar
#print axioms C14.lerpSse_eq
#print axioms C14.dotSse_map_div
#print axioms C14.quat_lerp_unit
#print axioms C14.interp_at_zero
#print axioms C14.interp_at_one
#print axioms C14.interp_same
#print axioms C14.map_div_one
#print axioms C14.quat_lerp_at_zero
#print axioms C14.dot_neg_neg
#print axioms C14.quat_lerp_at_one
#print axioms C14.quat_lerp_same
#print axioms C14.interpScalar_eq
#print axioms C14.lerpScalar_eq_lerpSse
#print axioms C14.dquat_lerp_at_zero
#print axioms C14.dquat_lerp_at_one
#print axioms C14.dquat_lerp_same
#print axioms C14.dquat_lerp_unit
#print axioms C14.lerp_endpoints_binary32
#print axioms C14.lerpInt_endpoints_binary32
#print axioms C14.rne24_natCast_of_le
#print axioms C14.lerpInt_endpoints_le_2pow24
#print axioms C14.lerp_at_zero_any_rounding
#print axioms C14.lerp_at_one_any_rounding
#print axioms C14.ofInt_val
#print axioms C14.rho_int
#print axioms C14.ofInt_rep
#print axioms C14.round_ofInt
#print axioms C14.lerpInt_of_lerp_eq
#print axioms C14.lerpInt_at_zero_any_rounding
#print axioms C14.lerpInt_at_one_any_rounding
