import MinaProofs.Props.C15
import MinaProofs.Props.C15Float
/-! GENERATED by ./check: axiom audit of every theorem in Props/C15*.lean -/
#print axioms C15.macro_consts_as_documented
#print axioms C15.secondsOf_eq_readSeconds
#print axioms C15.kfPosition_eq_readPosition
#print axioms C15.collect_eq_foldl
#print axioms C15.fold_fields
#print axioms C15.last_duplicate_wins
#print axioms C15.combine3_map
#print axioms C15.combine3_maps
#print axioms C15.secondsOrDefault_eq
#print axioms C15.repeatOrDefault_eq
#print axioms C15.expandCfg_run
#print axioms C15.expand_sound
#print axioms C15.collectStep_comm
#print axioms C15.args_any_order
#print axioms C15.merged_list_in_order
#print axioms C15.single_member_list
#print axioms C15.reject_unknown_suffix
#print axioms C15.reject_missing_percent
#print axioms C15.reject_non_integer_repeat
#print axioms C15.parseKfVals_reject
#print axioms C15.reject_keyframe_without_braces
#print axioms C15.reject_missing_unit
#print axioms C15.reject_propagates
#print axioms C15.percent_table_f32
#print axioms C15.percent_exact_f32
#print axioms C15.millis_table_f32
