import MinaProofs.Props.C12
import MinaProofs.Props.C12Nested
import MinaProofs.Props.C12Order
/-! GENERATED by ./check: axiom audit of every theorem in Props/C12*.lean -/
#print axioms C12.merged_update_fold
#print axioms C12.merged_update_cons
#print axioms C12.update_go_append
#print axioms C12.singleton_transparent
#print axioms C12.mergedWrites_cons_ok
#print axioms C12.merged_update_eq_writes
#print axioms C12.merged_update_ok_iff
#print axioms C12.later_wins
#print axioms C12.startWith_reaches_all
#print axioms C12.empty_merge
#print axioms C12.foldl_min_le
#print axioms C12.merged_delay_min
#print axioms C12.durLe_refl
#print axioms C12.durLe_trans
#print axioms C12.durLt_iff
#print axioms C12.durLe_of_durLt
#print axioms C12.durLe_of_not_durLt
#print axioms C12.eq_none_of_durLe
#print axioms C12.foldl_dur_max
#print axioms C12.merged_duration_max
#print axioms C12.merged_duration_infinite_iff
#print axioms C12.repeat_lt_iff
#print axioms C12.rankLe_trans
#print axioms C12.rankLe_of_lt
#print axioms C12.rankLe_of_not_lt
#print axioms C12.foldl_repeat_max
#print axioms C12.merged_repeat_max
#print axioms C12.cycleFold_absorb
#print axioms C12.cycleFold_eq_some
#print axioms C12.merged_cycle_common
#print axioms C12.nested_update_flat
#print axioms C12.nested_startWith_flat
#print axioms C12.cycleFold_none
#print axioms C12.cycleFold_mem_none
#print axioms C12.nested_cycle_none_of_part_none
#print axioms C12.nested_cycle_none_of_empty_part
#print axioms C12.nested_delay_min
#print axioms C12.nested_duration_max
#print axioms C12.nested_repeat_max
#print axioms C12.durLe_antisymm
#print axioms C12.rankLe_antisymm
#print axioms C12.leaf_part
#print axioms C12.flatten_ne_nil
#print axioms C12.nested_equiv_flat
#print axioms C12.nested_delay_eq_flat
#print axioms C12.nested_duration_eq_flat
#print axioms C12.nested_repeat_rank_eq_flat
#print axioms C12.idxs_build
#print axioms C12.disjointIdx_symm
#print axioms C12.writes_indices
#print axioms C12.lastWrite_some_mem
#print axioms C12.applyWrites_ext
#print axioms C12.perm_lastWrite
#print axioms C12.disjoint_any_order
#print axioms C12.disjoint_any_order_ok_iff
