import MinaProofs.Props.C06
import MinaProofs.Props.C06Built
/-! GENERATED by ./check: axiom audit of every theorem in Props/C06*.lean -/
#print axioms C06.advance_zero
#print axioms C06.advance_clock_add
#print axioms C06.StableWrites.update_update
#print axioms C06.advanceNs_add
#print axioms C06.advance_add
#print axioms C06.insert_zero_advance
#print axioms C06.nanos_additive
#print axioms C06.builtMerged_startWith
#print axioms C06.builtMerged_stable
#print axioms C06.position_in_unit
#print axioms C06.advance_add_built
#print axioms C06.advance_continue_ok
#print axioms C06.partition_independent
