import MinaProofs.Props.C19
/-! GENERATED by ./check: axiom audit of every theorem in Props/C19*.lean -/
#print axioms C19.select_installs_blended_clone
#print axioms C19.reassign_same_key_noop
#print axioms C19.key_change_no_jump
#print axioms C19.key_without_timeline_stops
#print axioms C19.chainStep_eq
#print axioms C19.chain_fires_on_end
#print axioms C19.chain_silent_without_ended
#print axioms C19.chain_silent_without_entry
#print axioms C19.chain_changes_key_only
#print axioms C19.selectStep_key
#print axioms C19.frame_sel
#print axioms C19.key_moves_only_on_ended
#print axioms C19.chain_only_on_own_end
#print axioms C19.chain_fires_on_other_animator
