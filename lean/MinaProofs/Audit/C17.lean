import MinaProofs.Props.C17
/-! GENERATED by ./check: axiom audit of every theorem in Props/C17*.lean -/
#print axioms C17.isEmpty_filter
#print axioms C17.anim_fields_rule
#print axioms C17.anim_fields_sublist
#print axioms C17.one_setter_per_animated_field
#print axioms C17.excluded_field_untouched
#print axioms C17.generated_names
#print axioms C17.applyAttrs_error_of_mem
#print axioms C17.unsupported_rejected
#print axioms C17.generated_update_touches_only_animated
