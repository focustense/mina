import MinaProofs.Props.C16
/-! GENERATED by ./check: axiom audit of every theorem in Props/C16*.lean -/
#print axioms C16.expandArms_cons_ok
#print axioms C16.defaults_as_documented
#print axioms C16.arms_in_order
#print axioms C16.multi_state_arm_same_timeline
#print axioms C16.unmentioned_state_has_no_timeline
#print axioms C16.last_on_wins
#print axioms C16.last_arm_wins
#print axioms C16.default_keyframe_passed_through
#print axioms C16.expandArms_error_of_mem
#print axioms C16.illformed_arm_rejects
