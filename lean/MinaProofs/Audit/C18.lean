import MinaProofs.Props.C18
import MinaProofs.Props.C18Float
/-! GENERATED by ./check: axiom audit of every theorem in Props/C18*.lean -/
#print axioms C18.eq_ended_of_rank
#print axioms C18.stepState_forward
#print axioms C18.stepState_changed_iff
#print axioms C18.stepState_never_none
#print axioms C18.stepState_waiting
#print axioms C18.stepState_ended_iff
#print axioms C18.disabled_noop
#print axioms C18.no_timeline_step
#print axioms C18.step_spec
#print axioms C18.ended_step
#print axioms C18.position_conserved
#print axioms C18.state_forward_only
#print axioms C18.waiting_implies_before_delay
#print axioms C18.ended_iff
#print axioms C18.never_ended_infinite
#print axioms C18.ended_target_terminal
#print axioms C18.playing_target
#print axioms C18.ended_target_untouched
#print axioms C18.one_event_per_changing_frame
#print axioms C18.runFrames_cons_ok
#print axioms C18.exactly_one_ended_per_run
#print axioms C18.ended_run
#print axioms C18.ended_is_final
#print axioms C18.position_is_sum_of_deltas
#print axioms C18.frameAll_get
#print axioms C18.frameAll_error
#print axioms C18.end_boundary_wraps_f32
#print axioms C18.end_boundary_short_f32
#print axioms C18.end_boundary_exact_f32
