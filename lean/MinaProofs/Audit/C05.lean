import MinaProofs.Props.C05
/-! GENERATED by ./check: axiom audit of every theorem in Props/C05*.lean -/
#print axioms C05.current_state_is_last_set
#print axioms C05.advance_clock
#print axioms C05.values_follow_timeline
#print axioms C05.enter_blends_from_current
#print axioms C05.pause_rule
#print axioms C05.pause_is_remembered
#print axioms C05.resume_restores_position
#print axioms C05.pause_survives_unanimated
#print axioms C05.pause_discarded_on_other_animated
#print axioms C05.pause_only_while_unanimated
