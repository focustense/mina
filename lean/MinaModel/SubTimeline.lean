import MinaModel.Lerp
import MinaModel.Easing
/-!
# `SubTimeline` — `core/src/timeline_helpers.rs`
-/

variable {α : Type} [Num α]

/-- `SplitKeyframe<Value>` -/
structure Frame (α : Type) where
  time : α
  value : Val α
  easing : Easing
deriving Repr

/-- one property's view of a master `Keyframe<Data>`: `get_value(&keyframe.data)` already applied -/
structure PKeyframe (α : Type) where
  time : α
  value : Option (Val α)
  easing : Option Easing
deriving Repr

structure SubTl (α : Type) where
  frames : List (Frame α)
  indexMap : List Nat
  startOverride : Option (Frame α)
deriving Repr

def SubTl.empty : SubTl α := ⟨[], [], none⟩

/-- the loop state of `from_keyframes` -/
structure FkAcc (α : Type) where
  frames : List (Frame α)
  indexMap : List Nat
  curEasing : Easing
  hasData : Bool

/-- one iteration of the `for keyframe in keyframes` loop -/
def fkStep (dflt : Val α) (st : FkAcc α) (kf : PKeyframe α) : FkAcc α :=
  let frames := if st.frames.isEmpty && lit 0 < kf.time then st.frames ++ [⟨lit 0, dflt, st.curEasing⟩] else st.frames
  match kf.value with
  | some v =>
    let cur := match kf.easing with | some e => e | none => st.curEasing
    let frames := frames ++ [⟨kf.time, v, cur⟩]
    ⟨frames, st.indexMap ++ [max frames.length 1 - 1], cur, true⟩
  | none => ⟨frames, st.indexMap ++ [max frames.length 1 - 1], st.curEasing, st.hasData⟩

/-- `SubTimeline::from_keyframes` -/
def SubTl.fromKeyframes (kfs : List (PKeyframe α)) (dflt : Val α) (e0 : Easing) : SubTl α :=
  let st := kfs.foldl (fkStep dflt) ⟨[], [], e0, false⟩
  if !st.hasData then SubTl.empty else
  let frames := match st.frames.getLast? with
    | some f => if f.time < lit 1 then st.frames ++ [⟨lit 1, f.value, f.easing⟩] else st.frames
    | none => st.frames
  ⟨frames, st.indexMap, none⟩

/-- `override_start_value` -/
def SubTl.overrideStart (s : SubTl α) (v : Val α) : SubTl α :=
  match s.frames.head? with
  | some f => { s with startOverride := some ⟨f.time, v, f.easing⟩ }
  | none => s

/-- `get_frame` -/
def SubTl.getFrame (s : SubTl α) (i : Nat) (ovr : Bool) : Option (Frame α) :=
  if ovr && i == 0 then
    match s.startOverride with
    | some f => some f
    | none => s.frames[0]?
  else s.frames[i]?

/-- `interpolate_value` -/
def interpolate (a b : Frame α) (t : α) : Except Panic (Val α) :=
  let d := b.time - a.time
  if d == lit 0 then .ok a.value else
  let x := (t - a.time) / d
  a.value.lerp b.value (a.easing.calc x)

/-- `f32::clamp(0.0, 1.0)` -/
def clamp01 (x : α) : α := if x < lit 0 then lit 0 else if lit 1 < x then lit 1 else x

/-- `get_bounding_frames` -/
def SubTl.boundingFrames (s : SubTl α) (t : α) (hint : Nat) (ovr : Bool) : Option (Frame α × Frame α) :=
  match s.indexMap[hint]? with
  | none => none
  | some i =>
    match s.getFrame i ovr with
    | none => none
    | some fa =>
      if t < fa.time then
        if i > 0 then
          match s.getFrame (i - 1) ovr with
          | some p => some (p, fa)
          | none => none
        else none
      else if i == s.frames.length - 1 then some (fa, fa)
      else match s.frames[i + 1]? with
        | some n => some (fa, n)
        | none => none

/-- `SubTimeline::value_at` -/
def SubTl.valueAt (s : SubTl α) (t : α) (hint : Nat) (ovr : Bool) : Option (Except Panic (Val α)) :=
  if s.indexMap.isEmpty then none else
  let t := clamp01 t
  match s.boundingFrames t hint ovr with
  | none => none
  | some (a, b) => some (interpolate a b t)

/-! ## a linear-time `from_keyframes` for the compiled driver

`fkStep` appends to the end of two lists, as the `Vec::push` of the Rust loop does — on a `List` that is quadratic, and
a timeline of 70 000 keyframes (more than a 16-bit index can count) would take minutes.  The version below conses onto
reversed lists and carries the length; it is *proved* equal to `SubTl.fromKeyframes` and registered with `@[csimp]`, so the
compiler uses it wherever the model calls `fromKeyframes` while every theorem keeps talking about the definition above. -/

structure FkAccR (α : Type) where
  framesRev : List (Frame α)
  n : Nat
  mapRev : List Nat
  curEasing : Easing
  hasData : Bool

def fkStepR (dflt : Val α) (st : FkAccR α) (kf : PKeyframe α) : FkAccR α :=
  let framesRev := if st.n == 0 && lit 0 < kf.time then (⟨lit 0, dflt, st.curEasing⟩ : Frame α) :: st.framesRev else st.framesRev
  let n := if st.n == 0 && lit 0 < kf.time then st.n + 1 else st.n
  match kf.value with
  | some v =>
    let cur := match kf.easing with | some e => e | none => st.curEasing
    ⟨⟨kf.time, v, cur⟩ :: framesRev, n + 1, (max (n + 1) 1 - 1) :: st.mapRev, cur, true⟩
  | none => ⟨framesRev, n, (max n 1 - 1) :: st.mapRev, st.curEasing, st.hasData⟩

def SubTl.fromKeyframesFast (kfs : List (PKeyframe α)) (dflt : Val α) (e0 : Easing) : SubTl α :=
  let st := kfs.foldl (fkStepR dflt) ⟨[], 0, [], e0, false⟩
  if !st.hasData then SubTl.empty else
  let framesRev := match st.framesRev with
    | f :: _ => if f.time < lit 1 then (⟨lit 1, f.value, f.easing⟩ : Frame α) :: st.framesRev else st.framesRev
    | [] => st.framesRev
  ⟨framesRev.reverse, st.mapRev.reverse, none⟩

/-- the two loop states describe the same thing -/
def FkAcc.Rel (st : FkAcc α) (r : FkAccR α) : Prop :=
  st.frames = r.framesRev.reverse ∧ r.n = st.frames.length ∧ st.indexMap = r.mapRev.reverse ∧
    st.curEasing = r.curEasing ∧ st.hasData = r.hasData

theorem fkStep_rel (dflt : Val α) (st : FkAcc α) (r : FkAccR α) (kf : PKeyframe α) (h : st.Rel r) :
    (fkStep dflt st kf).Rel (fkStepR dflt r kf) := by
  obtain ⟨hf, hn, hm, he, hd⟩ := h
  have hemp : st.frames.isEmpty = (r.n == 0) := by rw [hn]; cases st.frames <;> rfl
  unfold fkStep fkStepR
  -- after this both steps speak of `r` only and test the same condition; what is left is list bookkeeping
  rw [hemp, hf, hm, he, hd]
  cases kf.value <;> split <;> simp [FkAcc.Rel, hn, hf]

theorem fk_fold_rel (dflt : Val α) (kfs : List (PKeyframe α)) (st : FkAcc α) (r : FkAccR α) (h : st.Rel r) :
    (kfs.foldl (fkStep dflt) st).Rel (kfs.foldl (fkStepR dflt) r) := by
  induction kfs generalizing st r with
  | nil => exact h
  | cons k rest ih => exact ih _ _ (fkStep_rel dflt st r k h)

theorem SubTl.fromKeyframes_eq_fast (kfs : List (PKeyframe α)) (dflt : Val α) (e0 : Easing) :
    SubTl.fromKeyframes kfs dflt e0 = SubTl.fromKeyframesFast kfs dflt e0 := by
  obtain ⟨hf, -, hm, -, hd⟩ :=
    fk_fold_rel dflt kfs ⟨[], [], e0, false⟩ ⟨[], 0, [], e0, false⟩ ⟨rfl, rfl, rfl, rfl, rfl⟩
  simp only [SubTl.fromKeyframes, SubTl.fromKeyframesFast, hd, hf, hm, List.getLast?_reverse]
  generalize kfs.foldl (fkStepR dflt) _ = r
  split
  · rfl
  · rcases r.framesRev with _ | ⟨f, rest⟩
    · rfl
    · simp only [List.head?_cons]
      split <;> simp

@[csimp] theorem SubTl.fromKeyframes_csimp : @SubTl.fromKeyframes = @SubTl.fromKeyframesFast := by
  funext α _ kfs dflt e0
  exact SubTl.fromKeyframes_eq_fast kfs dflt e0
