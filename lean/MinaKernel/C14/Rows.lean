import MinaKernel.C14.Defs
/-!
# The 8-bit endpoint tables, operand by operand

`lerp a b 0 = a·(1 − 0) + b·0` and `lerp a b 1 = a·(1 − 1) + b·1`: in binary32 the vanishing product is a signed zero
that depends on one operand only, and adding it leaves the other operand's float unchanged.  So instead of evaluating
all 65 536 pairs of a kind, the kernel evaluates what is needed of a *single* operand (`operandOk`) on `[-128, 255]`,
which covers `u8` and `i8`; `okAt_of_operandOk` puts two operands together.
-/
namespace C14K

def one : Float32 := F32.ofBitsNat 0x3f800000
def posZero : Float32 := F32.ofBitsNat 0
def negZero : Float32 := F32.ofBitsNat F32.signBit

/-- `=` below is equality of bit patterns (`DecidableEq Float32`), not IEEE `==`, which identifies the two zeros. -/
def operandOk (a : Int) : Bool :=
  let f : Float32 := Num.ofInt a
  decide (f * one = f) && (decide (f * posZero = posZero) || decide (f * posZero = negZero)) &&
  decide (f + posZero = f) && decide (f + negZero = f) && decide (posZero + f = f) && decide (negZero + f = f) &&
  decide (Num.toInt? (Num.round f) = some a)

theorem operands_sweep : ((List.range 384).all fun i => operandOk (-128 + (i : Nat))) = true := by decide +kernel

theorem operandOk_of_range {a : Int} (h0 : -128 ≤ a) (h1 : a ≤ 255) : operandOk a = true := by
  have := List.all_eq_true.1 operands_sweep (a + 128).toNat (List.mem_range.2 (by omega))
  rwa [show (-128 + ((a + 128).toNat : Nat) : Int) = a by omega] at this

theorem one_sub_zero : (lit 1 - lit 0 : Float32) = one := by decide +kernel
theorem one_sub_one : (lit 1 - lit 1 : Float32) = posZero := by decide +kernel
theorem lit_zero : (lit 0 : Float32) = posZero := by decide +kernel
theorem lit_one : (lit 1 : Float32) = one := by decide +kernel

theorem okAt_of_operandOk {k : Gen.IntKind} {a b : Int} (ha : operandOk a = true) (hb : operandOk b = true)
    (hka : k.lo ≤ a ∧ a ≤ k.hi) (hkb : k.lo ≤ b ∧ b ≤ k.hi) : okAt k a b = true := by
  simp only [operandOk, Bool.and_eq_true, Bool.or_eq_true, decide_eq_true_eq] at ha hb
  -- of `a`: `a1` a·1 = a, `az` a·(+0) = ±0, `ap`/`an` a + (±0) = a, `ra` the round trip; of `b` likewise, with
  -- `pb`/`nb` (±0) + b = b
  obtain ⟨⟨⟨⟨⟨⟨a1, az⟩, ap⟩, an⟩, -⟩, -⟩, ra⟩ := ha
  obtain ⟨⟨⟨⟨⟨⟨b1, bz⟩, -⟩, -⟩, pb⟩, nb⟩, rb⟩ := hb
  have l0 : lerp (Num.ofInt a : Float32) (Num.ofInt b) (lit 0) = Num.ofInt a := by
    unfold lerp; rw [one_sub_zero, lit_zero, a1]
    rcases bz with h | h <;> rw [h]
    -- named, not `assumption`: that compares the goal with every hypothesis up to unfolding of the binary32 operations
    · exact ap
    · exact an
  have l1 : lerp (Num.ofInt a : Float32) (Num.ofInt b) (lit 1) = Num.ofInt b := by
    unfold lerp; rw [one_sub_one, lit_one, b1]
    rcases az with h | h <;> rw [h]
    · exact pb
    · exact nb
  simp only [okAt, lerpInt, l0, l1, ra, rb, hka, hkb, and_self, if_true, beq_self_eq_true, Bool.and_self]

theorem rowsOk_of_range {k : Gen.IntKind} {lo : Int} (hk : k.lo = lo ∧ k.hi = lo + 255) (hlo : -128 ≤ lo ∧ lo ≤ 0)
    {r0 rows : Nat} (hr : r0 + rows ≤ 256) : rowsOk k lo r0 rows = true := by
  simp only [rowsOk, List.all_eq_true, List.mem_range]
  intro i hi j hj
  exact okAt_of_operandOk (operandOk_of_range (by omega) (by omega)) (operandOk_of_range (by omega) (by omega))
    (by omega) (by omega)

theorem u8_rows {r0 : Nat} (hr : r0 + 16 ≤ 256) : rowsOk .u8 0 r0 16 = true :=
  rowsOk_of_range (by decide) (by decide) hr

theorem i8_rows {r0 : Nat} (hr : r0 + 16 ≤ 256) : rowsOk .i8 (-128) r0 16 = true :=
  rowsOk_of_range (by decide) (by decide) hr

/-! The complete domain, in blocks of 16 rows: every `(a, b)` pair of `u8` and of `i8` at `x = 0` and `x = 1`. -/

theorem u8_rows_00 : rowsOk .u8 0 0 16 = true := u8_rows (by decide)
theorem u8_rows_01 : rowsOk .u8 0 16 16 = true := u8_rows (by decide)
theorem u8_rows_02 : rowsOk .u8 0 32 16 = true := u8_rows (by decide)
theorem u8_rows_03 : rowsOk .u8 0 48 16 = true := u8_rows (by decide)
theorem u8_rows_04 : rowsOk .u8 0 64 16 = true := u8_rows (by decide)
theorem u8_rows_05 : rowsOk .u8 0 80 16 = true := u8_rows (by decide)
theorem u8_rows_06 : rowsOk .u8 0 96 16 = true := u8_rows (by decide)
theorem u8_rows_07 : rowsOk .u8 0 112 16 = true := u8_rows (by decide)
theorem u8_rows_08 : rowsOk .u8 0 128 16 = true := u8_rows (by decide)
theorem u8_rows_09 : rowsOk .u8 0 144 16 = true := u8_rows (by decide)
theorem u8_rows_10 : rowsOk .u8 0 160 16 = true := u8_rows (by decide)
theorem u8_rows_11 : rowsOk .u8 0 176 16 = true := u8_rows (by decide)
theorem u8_rows_12 : rowsOk .u8 0 192 16 = true := u8_rows (by decide)
theorem u8_rows_13 : rowsOk .u8 0 208 16 = true := u8_rows (by decide)
theorem u8_rows_14 : rowsOk .u8 0 224 16 = true := u8_rows (by decide)
theorem u8_rows_15 : rowsOk .u8 0 240 16 = true := u8_rows (by decide)

theorem i8_rows_00 : rowsOk .i8 (-128) 0 16 = true := i8_rows (by decide)
theorem i8_rows_01 : rowsOk .i8 (-128) 16 16 = true := i8_rows (by decide)
theorem i8_rows_02 : rowsOk .i8 (-128) 32 16 = true := i8_rows (by decide)
theorem i8_rows_03 : rowsOk .i8 (-128) 48 16 = true := i8_rows (by decide)
theorem i8_rows_04 : rowsOk .i8 (-128) 64 16 = true := i8_rows (by decide)
theorem i8_rows_05 : rowsOk .i8 (-128) 80 16 = true := i8_rows (by decide)
theorem i8_rows_06 : rowsOk .i8 (-128) 96 16 = true := i8_rows (by decide)
theorem i8_rows_07 : rowsOk .i8 (-128) 112 16 = true := i8_rows (by decide)
theorem i8_rows_08 : rowsOk .i8 (-128) 128 16 = true := i8_rows (by decide)
theorem i8_rows_09 : rowsOk .i8 (-128) 144 16 = true := i8_rows (by decide)
theorem i8_rows_10 : rowsOk .i8 (-128) 160 16 = true := i8_rows (by decide)
theorem i8_rows_11 : rowsOk .i8 (-128) 176 16 = true := i8_rows (by decide)
theorem i8_rows_12 : rowsOk .i8 (-128) 192 16 = true := i8_rows (by decide)
theorem i8_rows_13 : rowsOk .i8 (-128) 208 16 = true := i8_rows (by decide)
theorem i8_rows_14 : rowsOk .i8 (-128) 224 16 = true := i8_rows (by decide)
theorem i8_rows_15 : rowsOk .i8 (-128) 240 16 = true := i8_rows (by decide)

end C14K
