import MinaModel.Lerp
/-!
# C14 on the real binary32 model, by kernel evaluation over complete finite domains

`decide +kernel` evaluates the *same* generic `lerpInt` term at `Float32` (core Lean's logical model of
IEEE binary32) — no `native_decide`, nothing trusted beyond the kernel.
Complete domain: every `(a, b)` pair of `u8` and of `i8` at `x = 0` and `x = 1`, stated in blocks of 16 rows
(`u8_rows_NN`, `i8_rows_NN` in `Rows.lean`, which evaluates operand by operand and combines by a lemma).
-/
namespace C14K

def okAt (k : Gen.IntKind) (a b : Int) : Bool :=
  (match lerpInt (α := Float32) k a b (lit 0) with | .ok n => n == a | .error _ => false) &&
  (match lerpInt (α := Float32) k a b (lit 1) with | .ok n => n == b | .error _ => false)

/-- rows `lo+r0 … lo+r0+rows-1`, all 256 columns -/
def rowsOk (k : Gen.IntKind) (lo : Int) (r0 rows : Nat) : Bool :=
  (List.range rows).all fun i => (List.range 256).all fun j => okAt k (lo + (r0 + i : Nat)) (lo + j)

end C14K
